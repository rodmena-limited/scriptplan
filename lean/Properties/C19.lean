import Model
import Proofs.CliContract
/-!
C19 — the `plan` CLI honours its output contract.

All theorems are about `run env .repaired c fs0`: the effect program of plan.py after
notes/patches/F17, F18, F26, F43 (`Model/Cli.lean`), for every environment `env` (hash function,
engine verdict, report bodies, reports defined by the text: all abstract), every configuration `c`
(channel, format, process id, random token, **fault point**) and every initial file system `fs0`.
`WellFormed` = the argument names a user's path, temp names are fresh, the report goes to stdout.
The `pinned_*` theorems refute the same statements for the program text as pinned.
Not covered here: `-o FILE` (model only, checked by the correspondence stream), stderr text, click.
-/
namespace SP.C19
open SP.Cli
variable {B R : Type}

/-- **Exit-code map.**  For every input class and every fault point the exit code is the one in the
    table `expectedExit` (Proofs/CliContract.lean): 1 for rejected or unreadable input, 2 when
    anything later fails, 0 otherwise. -/
theorem exit_code_map (env : Cli.Env B R) (c : Config B) (fs0 : FS B R) (hwf : WellFormed c fs0) :
    (run env .repaired c fs0).1.exit = some (expectedExit env c fs0) :=
  (run_contract env c fs0 hwf).1

/-- the table has no other entries than 0, 1, 2 -/
theorem exit_code_range (env : Cli.Env B R) (c : Config B) (fs0 : FS B R) :
    expectedExit env c fs0 = 0 ∨ expectedExit env c fs0 = 1 ∨ expectedExit env c fs0 = 2 := by
  cases hacc : accepted env c fs0 with
  | none => exact .inr (.inl (expectedExit_none hacc))
  | some b =>
    rw [expectedExit_some hacc]
    split
    · exact .inr (.inr rfl)
    split
    · exact .inr (.inl rfl)
    split
    · exact .inr (.inr rfl)
    · exact .inl rfl

/-- missing file, directory, empty file (file channel); empty or whitespace-only stdin: exit 1 -/
theorem bad_input_is_1 (env : Cli.Env B R) (c : Config B) (fs0 : FS B R) (hwf : WellFormed c fs0)
    (h : (c.channel = .file ∧ (fs0 c.inPath = none ∨ fs0 c.inPath = some .dir ∨
            ∃ b, fs0 c.inPath = some (.file (.raw b)) ∧ env.empty b = true)) ∨
         (c.channel = .stdin ∧ env.blank c.stdin = true)) :
    (run env .repaired c fs0).1.exit = some 1 := by
  rw [exit_code_map env c fs0 hwf]
  have : accepted env c fs0 = none := by
    unfold accepted
    rcases h with ⟨hc, h | h | ⟨b, h, he⟩⟩ | ⟨hc, h⟩ <;> simp [hc, h, *]
  rw [expectedExit_none this]

/-- **Unreadable input exits 1** (after F26.diff): the input passed validation and reading it fails -/
theorem unreadable_is_1 (env : Cli.Env B R) (c : Config B) (fs0 : FS B R) (hwf : WellFormed c fs0) (b : B)
    (hacc : accepted env c fs0 = some b) (hf : c.fault = .readInput) :
    (run env .repaired c fs0).1.exit = some 1 := by
  rw [exit_code_map env c fs0 hwf]
  simp [expectedExit, hacc, hf]

/-- an accepted input whose processing fails anywhere after the hash — temp dir, input copy, engine
    (syntax error, engine exception, no report file), reading the report, writing stdout — exits 2 -/
theorem generation_failure_is_2 (env : Cli.Env B R) (c : Config B) (fs0 : FS B R) (hwf : WellFormed c fs0) (b : B)
    (hacc : accepted env c fs0 = some b) (hnr : c.fault ≠ .readInput)
    (h : (c.channel = .stdin ∧ (c.fault = .stdinMkstemp ∨ c.fault = .stdinWrite)) ∨ c.fault ∈ midFaults ∨
         env.engineOk b = false ∨ c.fault = .readReport ∨ c.fault = .echo) :
    (run env .repaired c fs0).1.exit = some 2 := by
  rw [exit_code_map env c fs0 hwf, expectedExit_some hacc]
  rcases h with h | h
  · rw [if_pos h]
  · split <;> rfl

/-- exit 0 exactly when the input was accepted, the engine succeeds on it and no fault fires -/
theorem exit_0_iff (env : Cli.Env B R) (c : Config B) (fs0 : FS B R) (hwf : WellFormed c fs0) :
    (run env .repaired c fs0).1.exit = some 0 ↔
      ∃ b, accepted env c fs0 = some b ∧ env.engineOk b = true ∧
        ¬(c.channel = .stdin ∧ (c.fault = .stdinMkstemp ∨ c.fault = .stdinWrite)) ∧
        c.fault ≠ .readInput ∧ c.fault ∉ midFaults ∧ c.fault ≠ .readReport ∧ c.fault ≠ .echo := by
  rw [exit_code_map env c fs0 hwf]
  cases hacc : accepted env c fs0 with
  | none => simp [expectedExit_none hacc]
  | some b =>
    rw [expectedExit_some hacc]
    simp only [Option.some.injEq, exists_eq_left']
    split
    · simp [*]
    split
    · simp [*]
    split
    · rename_i h
      rcases h with h | h | h | h <;> simp [h]
    · rename_i h
      simp only [not_or] at h
      simp [*]

/-- **Stdout carries the report and nothing else**: on exit 0 exactly one item, the auto report of the
    accepted bytes; on any other exit nothing at all -/
theorem stdout_only_report (env : Cli.Env B R) (c : Config B) (fs0 : FS B R) (hwf : WellFormed c fs0) :
    ((run env .repaired c fs0).1.exit = some 0 →
        ∃ b, accepted env c fs0 = some b ∧ (run env .repaired c fs0).1.stdout = [emitted env c b]) ∧
    ((run env .repaired c fs0).1.exit ≠ some 0 → (run env .repaired c fs0).1.stdout = []) := by
  obtain ⟨he, hs⟩ := run_contract env c fs0 hwf
  rw [he, hs]
  unfold expectedStdout
  cases hacc : accepted env c fs0 with
  | none => simp [expectedExit, hacc]
  | some b =>
    constructor
    · intro h0
      have : expectedExit env c fs0 = 0 := by simpa using h0
      exact ⟨b, rfl, by simp [this, emitted]⟩
    · intro h0
      have : expectedExit env c fs0 ≠ 0 := by simpa using h0
      simp [this]

/-- **report_id = SHA-256 of the bytes read**: of the file (file channel), of the bytes written to the
    temp file (stdin channel); the hash function is the abstract `env.H` -/
theorem report_id_is_hash (env : Cli.Env B R) (c : Config B) (fs0 : FS B R) (hwf : WellFormed c fs0)
    (hj : c.fmt = .json) (h0 : (run env .repaired c fs0).1.exit = some 0) :
    ∃ b, accepted env c fs0 = some b ∧
      (run env .repaired c fs0).1.stdout.map (·.reportId) = [some (env.H b)] ∧
      (c.channel = .file → fs0 c.inPath = some (.file (.raw b))) ∧
      (c.channel = .stdin → b = env.stdinCopy c.stdin) := by
  obtain ⟨b, hacc, hs⟩ := (stdout_only_report env c fs0 hwf).1 h0
  refine ⟨b, hacc, by simp [hs, emitted, hj], ?_, ?_⟩
  · intro hc
    simp only [accepted, hc] at hacc
    split at hacc
    · rename_i b' hb'
      split at hacc <;> simp_all
    · simp at hacc
  · intro hc
    simp only [accepted, hc] at hacc
    split at hacc <;> simp_all

/-- **Same bytes from a file and from stdin.**  If the text survives the text-mode round trip
    (`stdinCopy b = b`: UTF-8, no newline translation) and is not blank, the two channels give the
    same exit code and the same stdout — for every fault point common to both, whatever the process
    ids, temp names and random tokens of the two runs. -/
theorem same_bytes_file_stdin (env : Cli.Env B R) (cf cs : Config B) (fs0 : FS B R) (b : B)
    (hwf : WellFormed cf fs0) (hws : WellFormed cs fs0)
    (hcf : cf.channel = .file) (hcs : cs.channel = .stdin)
    (hfile : fs0 cf.inPath = some (.file (.raw b))) (hstdin : cs.stdin = b)
    (hrt : env.stdinCopy b = b) (hne : env.empty b = false) (hnb : env.blank b = false)
    (hfmt : cf.fmt = cs.fmt) (hfault : cf.fault = cs.fault)
    (hcommon : cs.fault ≠ .stdinMkstemp ∧ cs.fault ≠ .stdinWrite) :
    (run env .repaired cf fs0).1.exit = (run env .repaired cs fs0).1.exit ∧
    (run env .repaired cf fs0).1.stdout = (run env .repaired cs fs0).1.stdout := by
  obtain ⟨e1, s1⟩ := run_contract env cf fs0 hwf
  obtain ⟨e2, s2⟩ := run_contract env cs fs0 hws
  have a1 : accepted env cf fs0 = some b := by simp [accepted, hcf, hfile, hne]
  have a2 : accepted env cs fs0 = some b := by simp [accepted, hcs, hstdin, hnb, hrt]
  have hE : expectedExit env cf fs0 = expectedExit env cs fs0 := by
    simp [expectedExit, a1, a2, hcf, hcs, hfault, hcommon.1, hcommon.2]
  rw [e1, e2, s1, s2]
  refine ⟨by rw [hE], ?_⟩
  simp [expectedStdout, a1, a2, hE, hfmt]

/-- **Always the auto report.**  The result does not depend on the reports the text defines, on
    their names, formats or bodies: two environments that differ only there give the same exit
    code and the same stdout, and on success that stdout is the `id, start, end` report. -/
theorem always_auto_report (env env' : Cli.Env B R) (c : Config B) (fs0 : FS B R) (hwf : WellFormed c fs0)
    (hH : env'.H = env.H) (hbl : env'.blank = env.blank) (hem : env'.empty = env.empty)
    (hsc : env'.stdinCopy = env.stdinCopy) (hok : env'.engineOk = env.engineOk)
    (hab : env'.autoBody = env.autoBody) :
    (run env' .repaired c fs0).1.exit = (run env .repaired c fs0).1.exit ∧
    (run env' .repaired c fs0).1.stdout = (run env .repaired c fs0).1.stdout := by
  obtain ⟨e1, s1⟩ := run_contract env c fs0 hwf
  obtain ⟨e2, s2⟩ := run_contract env' c fs0 hwf
  have ha : accepted env' c fs0 = accepted env c fs0 := by simp [accepted, hbl, hem, hsc]
  have hE : expectedExit env' c fs0 = expectedExit env c fs0 := by simp [expectedExit, ha, hok]
  rw [e1, e2, s1, s2, hE]
  exact ⟨rfl, by simp [expectedStdout, ha, hE, hH, hab]⟩

/-- texts: 0 plain project, 1 project with its own JSON report `m` -/
def wEnv : Cli.Env Nat String :=
  { H := fun b => if b = 0 then "h0" else "h1", blank := fun _ => false, empty := fun _ => false,
    stdinCopy := id, engineOk := fun _ => true,
    reports := fun b => if b = 1 then [⟨['m'], ['m'], [.json]⟩] else [],
    autoBody := fun _ _ => "id,start,end", userBody := fun _ _ _ => "name,effort" }

def wFs : FS Nat String := fun p =>
  if p = .user 0 then some (.file (.raw 0)) else if p = .user 1 then some (.file (.raw 1)) else none

def wCfg (inp : Nat) (fault : Fault) (order : List Name) : Config Nat :=
  { pid := 0, channel := .file, inPath := .user inp, stdin := 0, fmt := .json, out := none,
    tok := [10, 11], fault := fault, dirOrder := order }

def mJson : Name := ['m', '.', 'j', 's', 'o', 'n']
def autoJson : Name := fileName (wCfg 1 .none []).rid .json

theorem wWellFormed (inp : Nat) (fault : Fault) (order : List Name) : WellFormed (wCfg inp fault order) wFs where
  inp := ⟨inp, rfl⟩
  raw := by
    intro x hx
    simp only [wCfg, wFs] at hx
    by_cases h0 : inp = 0
    · subst h0; exact ⟨0, by simpa using hx.symm⟩
    · by_cases h1 : inp = 1
      · subst h1; exact ⟨1, by simpa using hx.symm⟩
      · simp [h0, h1] at hx
  out := rfl
  fresh := by
    intro p hp
    cases p <;> simp_all [owns, wFs]

/-- F26 on the pinned code: an unreadable input exits 2 -/
theorem pinned_unreadable_is_2 :
    (run wEnv ⟨true, true, false, true⟩ (wCfg 0 .readInput []) wFs).1.exit = some 2 := by decide +kernel

/-- F17 on the pinned code: with the user's file listed first, the user's `name, effort` report is
    printed; with the other directory order, the auto report — the output depends on the order in
    which the OS lists the directory -/
theorem pinned_emits_user_report :
    (run wEnv ⟨false, false, true, true⟩ (wCfg 1 .none [mJson, autoJson]) wFs).1.stdout
      = [⟨.json, some "h1", "name,effort"⟩] ∧
    (run wEnv ⟨false, false, true, true⟩ (wCfg 1 .none [autoJson, mJson]) wFs).1.stdout
      = [⟨.json, some "h1", "id,start,end"⟩] := by decide +kernel

/-- the repaired program on the same inputs: exit 1 and the auto report, for both directory orders -/
example : (run wEnv .repaired (wCfg 0 .readInput []) wFs).1.exit = some 1 ∧
    (run wEnv .repaired (wCfg 1 .none [mJson, autoJson]) wFs).1.stdout = [⟨.json, some "h1", "id,start,end"⟩] ∧
    (run wEnv .repaired (wCfg 1 .none [autoJson, mJson]) wFs).1.stdout = [⟨.json, some "h1", "id,start,end"⟩] := by
  decide +kernel

/-- non-vacuity of `same_bytes_file_stdin`: a file run and a stdin run of text 1 -/
example : ∃ cs : Config Nat, WellFormed (wCfg 1 .none []) wFs ∧ WellFormed cs wFs ∧ cs.channel = .stdin ∧
    cs.stdin = 1 ∧ (run wEnv .repaired cs wFs).1.exit = some 0 ∧
    (run wEnv .repaired cs wFs).1.stdout = (run wEnv .repaired (wCfg 1 .none []) wFs).1.stdout :=
  ⟨{ wCfg 1 .none [] with channel := .stdin, stdin := 1, pid := 5, tok := [3] },
   wWellFormed 1 .none [],
   ⟨⟨1, rfl⟩, (wWellFormed 1 .none []).raw, rfl, by intro p hp; cases p <;> simp_all [owns, wFs]⟩,
   rfl, rfl, by decide +kernel, by decide +kernel⟩

end SP.C19
