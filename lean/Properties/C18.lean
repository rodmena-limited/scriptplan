import Model
import Proofs.Report
/-!
C18 — reports say what was scheduled.

All theorems are about `SP.Report` (Model/Report.lean), for every scheduled project given as data,
every column list (duplicates, unknown ids, API titles), every time format, leaf flag and format list.
The model carries the *repaired* behaviour for F19 (dates of unscheduled tasks) and F28 (cost walks the
ledger); JSON = CSV for every column list (F20 — keys collapsing for repeated titles — is repaired: keys are made unique).
-/
namespace SP.C18
open SP SP.Report

/-- the tasks that get a row -/
def keep (s : Spec) (t : Task) : Bool := !s.leafTasksOnly || t.leaf

/-- the tasks of the body lines, in order -/
def rows (p : Project) (s : Spec) : List Task := prepareTaskList p s.leafTasksOnly

/-- the rows are exactly the kept tasks, each once, ordered by sequence number -/
theorem rows_are_tasks_in_declaration_order (p : Project) (s : Spec) :
    rows p s = (sortSeq p.tasks).filter (keep s) ∧
    (rows p s).Perm (p.tasks.filter (keep s)) ∧
    SeqSorted (rows p s) := by
  have e : rows p s = (sortSeq p.tasks).filter (keep s) := prepareTaskList_eq p s.leafTasksOnly
  refine ⟨e, ?_, ?_⟩
  · rw [e]; exact (sortSeq_perm p.tasks).filter _
  · rw [e]; exact (sortSeq_sorted p.tasks).sublist List.filter_sublist

/-- when the tasks are handed over in declaration order the rows are that list, filtered -/
theorem rows_of_declaration_order (p : Project) (s : Spec) (h : SeqSorted p.tasks) :
    rows p s = p.tasks.filter (keep s) := by
  rw [(rows_are_tasks_in_declaration_order p s).1, sortSeq_of_sorted _ h]

/-- with `leaftasksonly` no container has a row and every leaf has one; without it every task has one -/
theorem row_iff (p : Project) (s : Spec) (t : Task) :
    t ∈ rows p s ↔ t ∈ p.tasks ∧ (s.leafTasksOnly = true → t.leaf = true) := by
  rw [((rows_are_tasks_in_declaration_order p s).2.1).mem_iff, List.mem_filter]
  cases h : s.leafTasksOnly <;> simp [keep, h]

/-- body line `i` is the line of row `i`: one cell per column -/
theorem one_line_per_row (p : Project) (s : Spec) (i : Nat) :
    (generate p s).body[i]? = ((rows p s)[i]?).map (fun t => s.columns.map (cell p s t)) :=
  List.getElem?_map ..

theorem body_length (p : Project) (s : Spec) : (generate p s).body.length = (rows p s).length :=
  List.length_map ..

/-- header cell `j` is the title of column `j` -/
theorem header_titles (p : Project) (s : Spec) (j : Nat) :
    (generate p s).header[j]? = (s.columns[j]?).map headerCell :=
  List.getElem?_map ..

/-- the table is rectangular -/
theorem table_rectangular (p : Project) (s : Spec) :
    ∀ line ∈ (generate p s).body, line.length = (generate p s).header.length := by
  intro line h
  obtain ⟨t, _, rfl⟩ := List.mem_map.mp h
  exact (List.length_map ..).trans (List.length_map ..).symm

/-- cell (i, j) = format (effective time format) (value of column j for the task of row i) -/
theorem cell_is_formatted_value (p : Project) (s : Spec) (i j : Nat) (t : Task) (c : Column)
    (hi : (rows p s)[i]? = some t) (hj : s.columns[j]? = some c) :
    ((generate p s).body[i]?).bind (·[j]?) =
      some (formatLookup (effectiveFormat s) (cellValue p t c.id)) := by
  rw [one_line_per_row, hi]
  exact (List.getElem?_map ..).trans (congrArg _ hj)

/-- unscheduled tasks show empty dates — whatever `start`/`end` they carry (F19 repaired) -/
theorem unscheduled_empty_dates (p : Project) (s : Spec) (t : Task) (c : Column)
    (hu : t.scheduled = false) (hc : c.id = "start" ∨ c.id = "end") :
    cell p s t c = .ok "" := by
  rw [cell, cellValue_unscheduled p t c.id hu hc]
  rfl

/-- a scheduled task's dates are rendered with the effective time format -/
theorem scheduled_dates_rendered (p : Project) (s : Spec) (t : Task) (c : Column) (x : Int)
    (hs : t.scheduled = true) (hf : effectiveFormat s ≠ "") :
    (c.id = "start" → t.start = some x → cell p s t c = strftime (effectiveFormat s) x) ∧
    (c.id = "end" → t.stop = some x → cell p s t c = strftime (effectiveFormat s) x) := by
  constructor
  · intro hc hx
    rw [cell, hc, cellValue_start p t hs, hx]
    exact if_pos hf
  · intro hc hx
    rw [cell, hc, cellValue_end p t hs, hx]
    exact if_pos hf

/-- the effective time format: the report's, unless that is (or defaults to) "%Y-%m-%d" and the
    project gives a non-empty one -/
theorem effective_format (s : Spec) :
    (∀ f, s.timeFormat = some f → f ≠ "%Y-%m-%d" → effectiveFormat s = f) ∧
    (∀ pf, (s.timeFormat = none ∨ s.timeFormat = some "%Y-%m-%d") → s.projectTimeformat = some pf → pf ≠ "" →
        effectiveFormat s = pf) ∧
    ((s.timeFormat = none ∨ s.timeFormat = some "%Y-%m-%d") →
        (s.projectTimeformat = none ∨ s.projectTimeformat = some "") → effectiveFormat s = "%Y-%m-%d") := by
  refine ⟨?_, ?_, ?_⟩
  · intro f h1 h2; simp [effectiveFormat, h1, h2]
  · intro pf h1 h2 h3
    rcases h1 with h1 | h1 <;> simp [effectiveFormat, h1, h2, h3]
  · intro h1 h2
    rcases h1 with h1 | h1 <;> rcases h2 with h2 | h2 <;> simp [effectiveFormat, h1, h2]

/-- the default format renders year-month-day -/
theorem strftime_default (t : Int) (h : yearOk (civilOf t) = true) :
    strftime "%Y-%m-%d" t =
      .ok (toString (civilOf t).y ++ "-" ++ pad2 (civilOf t).mo ++ "-" ++ pad2 (civilOf t).d) := by
  have e : "%Y-%m-%d".toList = ['%', 'Y', '-', '%', 'm', '-', '%', 'd'] := by simp
  simp only [strftime, h, e, expand_default, Bool.not_true, Bool.false_eq_true, if_false, String.append_assoc,
    String.append_empty]

/-- **the JSON records carry exactly the cells of the CSV body rows** (finding F20, repaired): for every project, every
    column list — repeated titles, titles that differ in case only, titles that look like generated keys — the values of
    every JSON record are the cells of its CSV row, in column order, and the records are keyed by `uniqNames` of the
    lower-cased header: pairwise different keys, one per column -/
theorem json_cells_eq_csv (p : Project) (s : Spec) :
    jsonCells (toJson (generate p s)) = (toCsv (generate p s)).tail ∧
    (∀ rec ∈ (toJson (generate p s)).data, rec.map (·.1) = uniqNames ((generate p s).header.map String.toLower)) ∧
    (toJson (generate p s)).columns.Nodup ∧
    (toJson (generate p s)).columns.length = (generate p s).header.length :=
  toJson_of_rectangular _ (table_rectangular p s)

/-- with pairwise different lower-cased titles the keys are those titles, unchanged -/
theorem json_keys_of_distinct_titles (p : Project) (s : Spec)
    (h : ((generate p s).header.map String.toLower).Nodup) :
    (toJson (generate p s)).columns = (generate p s).header.map String.toLower := by
  simp only [toJson]; exact uniqNames_of_nodup _ h

/-- the pinned `to_json` (keys = lower-cased titles as they are): with a repeated title every record is strictly
    shorter than its CSV row — this was finding F20 -/
theorem pinned_record_short (ks : List String) (vs : List Cell) (hd : ¬ ks.Nodup) :
    ((ks.zip vs).foldl (fun d kv => dictSet d kv.1 kv.2) []).length < ks.length := record_short ks vs hd

/-! the F20 witness: `columns id, start, end, id` -/

def f20Project : Project :=
  { tasks := [{ id := "a", name := "A", seq := 1, leaf := true, scheduled := true,
                start := some 1736154000, stop := some 1736168400, effort := .float 4, priority := 500,
                scen := [], plain := [] }]
    resources := [{ id := "r1", rate := 0 }]
    ledger := [{ res := "r1", task := "a", secs := 14400 }] }

def f20Spec : Spec :=
  { columns := [⟨"id", none⟩, ⟨"start", none⟩, ⟨"end", none⟩, ⟨"id", none⟩]
    timeFormat := none, projectTimeformat := none, leafTasksOnly := false, formats := [.json, .csv] }

/-- the witness after the repair: four keys, the repeated title qualified with its column position -/
example : (toJson (generate f20Project f20Spec)).columns = ["id", "start", "end", "id_4"] := by decide +kernel

example : uniqNames ["id", "start", "end", "id", "id_4", "id"] = ["id", "start", "end", "id_4", "id_4_5", "id_6"] := by
  decide +kernel


/-- the cost of a task is Σ over the ledger lines of the task of rate(resource) · seconds / 3600
    (resource ids pairwise different) — F28 repaired -/
theorem cost_eq_rate_times_booked (p : Project) (tid : String) (h : (p.resources.map (·.id)).Nodup) :
    getCost p tid = ((p.ledger.filter (fun b => b.task == tid)).map
      (fun b => rateOf p b.res * b.secs / 3600)).sum :=
  getCost_eq p tid h

/-- what the cost column shows: that amount with two decimals, or nothing when it is not positive -/
theorem cost_cell (p : Project) (s : Spec) (t : Task) (c : Column) (hc : c.id = "cost") :
    cell p s t c = if 0 < getCost p t.id then .ok (fmt2 (getCost p t.id)) else .ok "" := by
  rw [cell, hc, cellValue_cost, costValue]
  split <;> rfl

/-- the two decimals shown are within half a cent of the amount -/
theorem money_rendering_close (q : Rat) (h : 0 ≤ q) :
    ((cents q : Rat) / 100 - q ≤ 1 / 200) ∧ (q - (cents q : Rat) / 100 ≤ 1 / 200) ∧
    fmt2 q = toString (cents q / 100) ++ "." ++ pad2 (cents q % 100) := by
  have hn : ¬ q < 0 := Rat.not_lt.mpr h
  have hc : cents q = Report.roundHalfEven (q * 100) := by rw [cents, if_neg hn]
  have := roundHalfEven_close (q * 100)
  rw [fmt2, if_neg hn, String.empty_append, hc]
  generalize (Report.roundHalfEven (q * 100) : Rat) = r at this
  have : r / 100 - q ≤ 1 / 200 ∧ q - r / 100 ≤ 1 / 200 := by grind
  exact ⟨this.1, this.2, rfl⟩

example : (f20Project.resources.map (·.id)).Nodup := by decide

/-- any sequence of report generations leaves the scheduled project and the context stack as they
    were; every generation writes the renderings of that same project -/
theorem generate_readonly (st : GenState) (specs : List Spec) :
    (generateAll st specs).1.project = st.project ∧
    (generateAll st specs).1.contexts = st.contexts ∧
    (generateAll st specs).2 = specs.map (renderings st.project) := by
  induction specs generalizing st with
  | nil => simp [generateAll]
  | cons s r ih =>
    have h1 : (generateStep st s).1.project = st.project := rfl
    have h2 : (generateStep st s).1.contexts = st.contexts := rfl
    have h3 : (generateStep st s).2 = renderings st.project s := rfl
    have := ih (generateStep st s).1
    simp only [generateAll, List.map_cons]
    rw [h1, h2] at this
    exact ⟨this.1, this.2.1, by rw [this.2.2, h3]⟩

/-- generating the same report `n` times yields `n` times the same renderings -/
theorem generate_repeatable (st : GenState) (s : Spec) (n : Nat) :
    (generateAll st (List.replicate n s)).2 = List.replicate n (renderings st.project s) := by
  rw [(generate_readonly st _).2.2]; simp

/-- one rendering per requested format, in that order: JSON of the table for `json`, CSV for `csv` -/
theorem renderings_follow_formats (p : Project) (s : Spec) (k : Nat) :
    (renderings p s)[k]? = (s.formats[k]?).map (render (generate p s)) ∧
    render (generate p s) .json = .json (toJson (generate p s)) ∧
    render (generate p s) .csv = .csv (toCsv (generate p s)) := by
  simp [renderings, render]

end SP.C18

/-! ## non-vacuity: the hypotheses above are met by non-trivial inputs, and the model evaluates the
    recorded witnesses as the (repaired) implementation does -/
namespace SP.C18
open SP SP.Report

/-- the F19 witness after scheduling: `a` ran away (unscheduled, start kept, ghost bookings),
    `b` is scheduled, `c` depends on `a` and was never started; given out of declaration order -/
def f19Project : Project :=
  { tasks := [
      { id := "c", name := "C", seq := 3, leaf := true, scheduled := false, start := none, stop := none,
        effort := .float 4, priority := 500, scen := [], plain := [] },
      { id := "a", name := "A", seq := 1, leaf := true, scheduled := false, start := some 1736154000, stop := none,
        effort := .float 40, priority := 500, scen := [], plain := [] },
      { id := "g", name := "G", seq := 4, leaf := false, scheduled := false, start := none, stop := none,
        effort := .int 0, priority := 500, scen := [], plain := [] },
      { id := "b", name := "B", seq := 2, leaf := true, scheduled := true, start := some 1736154000,
        stop := some 1736168400, effort := .float 4, priority := 700, scen := [], plain := [] }]
    resources := [{ id := "r1", rate := 100 }, { id := "r2", rate := 10 }]
    ledger := [{ res := "r1", task := "a", secs := 432000 }, { res := "r2", task := "b", secs := 14400 }] }

def f19Spec : Spec :=
  { columns := [⟨"id", none⟩, ⟨"start", none⟩, ⟨"end", none⟩, ⟨"cost", none⟩, ⟨"foo", none⟩, ⟨"priority", some "Prio"⟩]
    timeFormat := none, projectTimeformat := some "%d.%m.%Y %H:%M", leafTasksOnly := true, formats := [.csv] }

example : generate f19Project f19Spec =
    { header := ["Id", "Start", "End", "Cost", "foo", "Prio"]
      body := [[.ok "a", .ok "", .ok "", .ok "12000.00", .ok "-", .ok "500"],
               [.ok "b", .ok "06.01.2025 09:00", .ok "06.01.2025 13:00", .ok "40.00", .ok "-", .ok "700"],
               [.ok "c", .ok "", .ok "", .ok "", .ok "-", .ok "500"]] } := by decide +kernel

/-- `unscheduled_empty_dates` applies: task `a` is unscheduled and carries a start -/
example : ∃ t ∈ f19Project.tasks, t.scheduled = false ∧ t.start ≠ none := by decide +kernel

/-- `scheduled_dates_rendered` applies to task `b` -/
example : ∃ t ∈ f19Project.tasks, t.scheduled = true ∧ t.start = some 1736154000 ∧ effectiveFormat f19Spec ≠ "" := by
  decide +kernel

/-- `rows_of_declaration_order` applies to a three-task project; `f19Project` itself is *not* in
    declaration order and is covered by `rows_are_tasks_in_declaration_order` -/
example : SeqSorted f20Project.tasks ∧ ¬ SeqSorted f19Project.tasks := by
  unfold SeqSorted
  decide +kernel

example : (f19Project.resources.map (·.id)).Nodup ∧ getCost f19Project "a" = 12000 := by decide +kernel

/-- `strftime_default` applies -/
example : yearOk (civilOf 1736154000) = true := by decide +kernel

/-- directives outside the modelled set are declined, not defaulted -/
example : strftime "%y" 1736154000 = .error .unsupportedDirective ∧ strftime "%Y" (-40000000000) = .error .outOfRange := by
  decide +kernel

/-- a tie is rounded half to even, as `"%.2f"` does on the exact value -/
example : fmt2 (1/8) = "0.12" ∧ fmt2 (3/8) = "0.38" ∧ fmt2 (2399/2) = "1199.50" := by decide +kernel

end SP.C18
