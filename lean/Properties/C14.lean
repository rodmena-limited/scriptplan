import Model
import Proofs.Shift
/-!
C14 — shifting the calendar by whole weeks shifts the schedule by the same amount.

The scheduler model works in times relative to the project start; only the calendar view looks at
absolute instants.  For a UTC project, moving *every* date (project start and end, pinned starts and
ends, leaves, vacations, bookings, holidays) by `k` whole weeks leaves the whole elaborated environment
unchanged — weekday and minute of day, day and Monday-based week differences to the project start,
leave membership — for every `k ∈ ℤ`, across month and year ends, leap days and 53-week ISO years.
Hence the scheduler's state is identical and every reported date (`start + relative date`) moves by
exactly `604800·k` seconds.
-/
namespace SP.C14
open SP

/-- the environment the scheduler sees is invariant -/
theorem env_invariant (k : Int) (p : RawProj) (h : UTCProject p) :
    (elaborate (shiftProj (604800 * k) p)).env = (elaborate p).env := elaborate_shift k p h

/-- … so the scheduler's final state is identical … -/
theorem state_invariant (k : Int) (p : RawProj) (h : UTCProject p) (t : Nat) :
    (runScenario (elaborate (shiftProj (604800 * k) p)).env).tst t = (runScenario (elaborate p).env).tst t := by
  rw [env_invariant k p h]

/-- … and every reported date moves by exactly `604800·k` seconds -/
theorem dates_shift (k : Int) (p : RawProj) (h : UTCProject p) (t : Nat) :
    ((runScenario (elaborate (shiftProj (604800 * k) p)).env).tst t).start.map (Elab.abs (shiftProj (604800 * k) p)) =
      (((runScenario (elaborate p).env).tst t).start.map (Elab.abs p)).map (· + 604800 * k) ∧
    ((runScenario (elaborate (shiftProj (604800 * k) p)).env).tst t).stop.map (Elab.abs (shiftProj (604800 * k) p)) =
      (((runScenario (elaborate p).env).tst t).stop.map (Elab.abs p)).map (· + 604800 * k) := by
  have habs : ∀ o : Option Int, o.map (Elab.abs (shiftProj (604800 * k) p)) = (o.map (Elab.abs p)).map (· + 604800 * k) := by
    intro o
    rw [Option.map_map]
    exact congrArg (Option.map · o) (funext fun d => Int.add_right_comm p.start (604800 * k) d)
  rw [state_invariant k p h t]
  exact ⟨habs _, habs _⟩

/-- the per-slot ingredients, for arbitrary `k` -/
theorem weekday_invariant (t k : Int) : weekday (t + 604800 * k) = weekday t := weekday_shift t k
theorem week_index_invariant (k : Int) (c : CalEnv) (i : Int) :
    weekIdxAt (shiftCal (604800 * k) c) i = weekIdxAt c i := weekIdxAt_shift k c i
theorem day_index_invariant (k : Int) (c : CalEnv) (i : Int) :
    dayIdxAt (shiftCal (604800 * k) c) i = dayIdxAt c i := dayIdxAt_shift k c i

/-- non-vacuity: the F8 witness (start 2026-12-04, weekly limit, 12 weeks) is a UTC project -/
example : UTCProject { G := 3600, start := 1796342400, stop := 1803600000, res := [{ limits := [{ weekly := true, value := 10 }] }],
                       tasks := [{ effort := some 60, alloc := some ([0], []) }] } := by
  intro r hr; simp at hr; subst hr; rfl

end SP.C14
