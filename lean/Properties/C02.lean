import Model
import Proofs.Closed
import Proofs.WFCheck
import Proofs.Aligned
import Proofs.Inherit
/-!
C02 — work is booked only inside the resource's working time.

(a) scheduler level: a slot that carries any booking is on shift for that (leaf) resource in the
    calendar view (which already excludes leaves, vacations, bookings and global holidays);
(b) calendar view: `onShiftAt` excludes every leave interval and applies the weekly hours in the
    resource's zone (cross-midnight shifts: the part after midnight belongs to the next day).
-/
namespace SP.C02
open SP

/-- (a) booked ⇒ on shift, for every well-formed project -/
theorem booked_onShift (e : Env) (wf : WF e) (r : Nat) (i : Int)
    (h : ((runScenario e).led.get r i).usage ≠ []) : e.onShift r i = true ∧ (e.resD r).leaf = true :=
  (runScenario_inv e wf).shift r i h

/-- (b1) a slot whose first instant lies in a global vacation, a global leave or a leave / vacation /
    booking of the resource is never on shift -/
theorem leave_excluded (c : CalEnv) (rc : ResCal) (i : Int)
    (h : inAny c.gvac (c.time i) = true ∨ inAny c.gleaves (c.time i) = true ∨ inAny rc.leaves (c.time i) = true) :
    onShiftAt c rc i = false := by
  unfold onShiftAt
  simp only []
  rcases h with h | h | h
  · rw [if_pos h]
  · rw [if_pos h, ite_self]
  · rw [if_pos h, ite_self, ite_self]

/-- (b2) with custom hours the decision is the weekly pattern evaluated at the local wall-clock time -/
theorem hours_applied (c : CalEnv) (rc : ResCal) (h : Hours) (i : Int) (hh : rc.hours = some h)
    (h1 : inAny c.gvac (c.time i) = false) (h2 : inAny c.gleaves (c.time i) = false)
    (h3 : inAny rc.leaves (c.time i) = false) :
    onShiftAt c rc i =
      let lt := match rc.zone with
        | some tbl => c.time i + offsetAt tbl (c.time i)
        | none => c.time i
      h.on (weekday lt) (minuteOfDay lt) := by
  unfold onShiftAt
  cases hz : rc.zone <;> simp [h1, h2, h3, hh]

/-- (b3) cross-midnight shift semantics: an interval `[s, e)` with `e ≤ s` declared for weekday `d`
    covers `m ≥ s` on `d` and `m < e` on the following day, and nothing else of those two days -/
theorem cross_midnight (s e m : Int) (d wd : Int) (hes : e ≤ s) (hd : 0 ≤ d ∧ d < 7) (hwd : 0 ≤ wd ∧ wd < 7) :
    let h : Hours := { days := (List.range 7).map (fun (k : Nat) => if (k : Int) = d then [(s, e)] else []) }
    h.on wd m = (decide (wd = d) && decide (m ≥ s) || decide ((wd - 1) % 7 = d) && decide (m < e)) := by
  intro h
  have hday : ∀ x : Int, 0 ≤ x → x < 7 → h.day x = if x = d then [(s, e)] else [] := by
    intro x hx0 hx7
    simp only [Hours.day, h]
    have : x.toNat < 7 := by omega
    rw [List.getD_eq_getElem?_getD, List.getElem?_map, List.getElem?_range this, Option.map_some, Option.getD_some,
      Int.toNat_of_nonneg hx0]
  have hm : 0 ≤ (wd - 1) % 7 ∧ (wd - 1) % 7 < 7 := ⟨Int.emod_nonneg _ (by decide), Int.emod_lt_of_pos _ (by decide)⟩
  unfold Hours.on
  rw [hday wd hwd.1 hwd.2, hday _ hm.1 hm.2]
  have hany : ∀ (c : Prop) [Decidable c] (f : Int × Int → Bool),
      (if c then [(s, e)] else []).any f = (decide c && f (s, e)) := by
    intro c _ f
    by_cases hc : c <;> simp [hc]
  rw [hany, hany]
  simp only [if_pos hes, decide_eq_true hes, Bool.true_and]

/-- non-vacuity: Monday 22:00–06:00 covers Monday 23:00 and Tuesday 05:00, not Monday 05:00 -/
example : let h : Hours := { days := [[(1320, 360)], [], [], [], [], [], []] }
    h.on 0 1380 = true ∧ h.on 1 300 = true ∧ h.on 0 300 = false := by decide

/-- (b4) with calendars aligned to the scheduling grid (resolution divides an hour; project start, every leave /
    vacation / booking / holiday boundary, every working-hours boundary, every zone offset and zone transition on the
    grid) the working-time decision is the same for every instant of a slot -/
theorem aligned_slot_is_uniform (c : CalEnv) (rc : ResCal) (ha : CalAligned c rc) (i δ : Int) (h0 : 0 ≤ δ) (h1 : δ < c.G) :
    workingAt c rc (c.time i + δ) = workingAt c rc (c.time i) := slot_uniform c rc ha i δ h0 h1

/-- **C02 for whole projects, every second**: after scheduling ANY well-formed project description, a slot of a resource
    that carries a booking is working time of that resource — own hours / shift hours evaluated in the resource's time
    zone (table incl. DST transitions), outside every leave, vacation, blocking booking and global holiday — at EVERY
    one of its seconds, provided the resource's calendar is aligned with the grid (`calAlignedB`, decidable; the
    complement is the open finding F6) -/
theorem booked_every_second (p : RawProj) (h : wfCheck (elaborate p).env = true) (r : Nat) (i : Int)
    (hb : ((runScenario (elaborate p).env).led.get r i).usage ≠ [])
    (hal : calAlignedB (elaborate p).cal ((elaborate p).rcal.getD r {}) = true)
    (δ : Int) (h0 : 0 ≤ δ) (h1 : δ < p.G) :
    workingAt (elaborate p).cal ((elaborate p).rcal.getD r {}) ((elaborate p).cal.time i + δ) = true := by
  have hon := (booked_onShift (elaborate p).env (wfCheck_sound _ h) r i hb).1
  exact onShift_every_second (elaborate p).cal _ (calAlignedB_sound _ _ hal) i hon δ h0 h1

/-- non-vacuity: a resource in a zone with a whole-hour DST transition, own hours 08:00–12:00 / 13:00–17:00 and a one-day
    leave is aligned with the one-hour grid -/
example : calAlignedB { start := 1741564800, G := 3600, size := 400, gvac := [], gleaves := [(1742169600, 1742256000)] }
    { zone := some [(0, 3600), (1743296400, 7200)], hours := some { days := [[(480, 720), (780, 1020)], [], [], [], [], [], []] },
      leaves := [(1741651200, 1741737600)] } = true := by decide +kernel

theorem resCals_hours (rs : List RawRes) (i : Nat) (hi : i < rs.length) :
    ((resCals rs).getD i {}).hours =
      (inheritOpt (rs.map (·.parent)) (((rs.map (·.shift)).zip (rs.map (·.hours))).map ownCal)).getD i none := by
  unfold resCals resCalsCore
  simp only [Array.getD_eq_getD_getElem?, Array.getElem?_map, List.getElem?_toArray, List.getElem?_range hi,
    Option.map_some, Option.getD_some]

/-- **a resource's own calendar wins**: a resource that declares working hours itself — through a shift reference or
    inline (the shift reference first, if it has both) — works those hours, whatever its enclosing groups declare.
    (The pinned code let a shift inherited from a group win over a resource's own inline hours: finding F55.) -/
theorem own_calendar_wins (rs : List RawRes) (i : Nat) (hi : i < rs.length) (h : Hours)
    (hown : ownCal ((rs.getD i {}).shift, (rs.getD i {}).hours) = some h) :
    ((resCals rs).getD i {}).hours = some h := by
  rw [resCals_hours rs i hi]
  have hget : rs.getD i {} = rs[i] := by simp [List.getD_eq_getElem?_getD, hi]
  rw [hget] at hown
  apply inheritOpt_own _ _ i (by simp [hi])
  simpa using hown

/-- **… else the calendar of the enclosing group**: a resource that declares no hours of its own has the effective hours of
    its parent (declared before it, as the parser produces) — which in turn are the parent's own or its parent's, so the
    NEAREST declaration decides -/
theorem calendar_from_enclosing_group (rs : List RawRes) (i p : Nat) (hi : i < rs.length)
    (hnone : ownCal ((rs.getD i {}).shift, (rs.getD i {}).hours) = none) (hp : (rs.getD i {}).parent = some p) (hlt : p < i) :
    ((resCals rs).getD i {}).hours = ((resCals rs).getD p {}).hours := by
  rw [resCals_hours rs i hi, resCals_hours rs p (by omega)]
  have hget : rs.getD i {} = rs[i] := by simp [List.getD_eq_getElem?_getD, hi]
  rw [hget] at hnone hp
  apply inheritOpt_from_parent _ _ i p (by simp [hi])
  · simpa using hnone
  · simpa using hp
  · exact hlt

/-- non-vacuity and the witness of F55: a group that refers to a shift (9-17) with a member that declares 6-10 -/
example :
    let sh : Hours := { days := [[(540, 1020)], [(540, 1020)], [(540, 1020)], [(540, 1020)], [(540, 1020)], [], []] }
    let own : Hours := { days := [[(360, 600)], [(360, 600)], [(360, 600)], [(360, 600)], [(360, 600)], [], []] }
    let rs : List RawRes := [{ shift := some sh }, { parent := some 0, hours := some own }]
    ownCal ((rs.getD 1 {}).shift, (rs.getD 1 {}).hours) = some own := rfl

end SP.C02
