import Model
import Proofs.SchedInv
import Proofs.Fuel
import Proofs.Horizon
import Proofs.Ordered
import Proofs.FrameTeamBack
/-!
C11 — scheduling is total.

Every function of the model is a total, structurally recursive Lean definition (loops carry explicit
fuel): termination is part of the definitions being accepted.  Theorems: the pick loop consumes one
task per iteration (so `#tasks + 1` fuel is never exhausted with work left), a failed task always
produces the `unscheduled_tasks` warning, a dead-locked work list the `deadlock` warning, and a task
whose cursor starts outside the horizon is reported as run-away instead of being walked.
Partial: Python exceptions in glue code, Lark on corrupted text, recursion limits and wall-clock time are
runtime facts the model cannot exhibit; they are covered by the crash/hang search of the check.
-/
namespace SP.C11
open SP

/-- the work list shrinks by exactly the picked task -/
theorem pick_removes_one (tasks : List Nat) (t : Nat) (h : t ∈ tasks) : (tasks.erase t).length + 1 = tasks.length := by
  rw [List.length_erase_of_mem h]
  have : 0 < tasks.length := List.length_pos_of_mem h
  omega

/-- fuel: with `fuel > #tasks` the loop never stops because of the fuel while a task is ready -/
theorem pickLoop_fuel_enough (e : Env) (fuel : Nat) (tasks failed : List Nat) (σ : St) (h : tasks.length < fuel) :
    (pickLoop e fuel tasks failed σ) = (pickLoop e (fuel + 1) tasks failed σ) := by
  induction fuel generalizing tasks failed σ with
  | zero => omega
  | succ f ih =>
    unfold pickLoop
    split
    · rfl
    · split
      · rename_i t ht
        have hm : t ∈ tasks := List.mem_of_find?_eq_some ht
        have hl := pick_removes_one tasks t hm
        exact ih _ _ _ (by omega)
      · rfl

/-- failed tasks are always reported -/
theorem unscheduled_warning (e : Env) (σ : St)
    (h : (pickLoop e ((todoOf e (preLoop e σ)).length + 1) (todoOf e (preLoop e σ)) [] (preLoop e σ)).2 ≠ []) :
    "unscheduled_tasks" ∈ (scheduleScenario e σ).warnings := by
  unfold scheduleScenario
  simp only []
  have hne : (pickLoop e ((todoOf e (preLoop e σ)).length + 1) (todoOf e (preLoop e σ)) [] (preLoop e σ)).2.isEmpty = false := by
    cases hx : (pickLoop e ((todoOf e (preLoop e σ)).length + 1) (todoOf e (preLoop e σ)) [] (preLoop e σ)).2 with
    | nil => exact absurd hx h
    | cons _ _ => rfl
  simp [hne]

/-- a work list in which no task is ready (and nothing failed before) is reported as a deadlock and all
    its tasks count as failed -/
theorem deadlock_warning (e : Env) (f : Nat) (tasks : List Nat) (σ : St) (hne : tasks.isEmpty = false)
    (hnone : tasks.find? (fun t => ready e σ t) = none) :
    pickLoop e (f + 1) tasks [] σ = ({ σ with warnings := σ.warnings ++ ["deadlock"] }, tasks) := by
  unfold pickLoop
  simp [hne, hnone]

/-- a cursor outside the horizon: the task is marked run-away, `schedule()` returns False, nothing is booked -/
theorem outside_horizon_is_runaway (e : Env) (σ : St) (t : Nat) (hnd : (σ.tst t).done = false)
    (hout : (preStartCursor e σ t (initCursor e σ t).1 < 0 || preStartCursor e σ t (initCursor e σ t).1 > e.upper) = true) :
    (scheduleTask e σ t).2 = false ∧ (scheduleTask e σ t).1.led = σ.led := by
  unfold scheduleTask
  simp only [hnd, Bool.false_eq_true, if_false, hout, if_true]
  exact ⟨trivial, rfl⟩

/-- an already scheduled task is left alone -/
theorem scheduled_is_skipped (e : Env) (σ : St) (t : Nat) (h : (σ.tst t).done = true) : scheduleTask e σ t = (σ, true) := by
  unfold scheduleTask; simp [h]

/-- **the slot walk**: the code's `while self.scheduleSlot()` loop has no fuel; it ends when the task is finished or the
    cursor leaves the horizon.  The model's walk behaves the same for ANY fuel above the number of slots between the cursor
    and the edge of the horizon: more fuel never changes the result -/
theorem walk_fuel_irrelevant (e : Env) (t : Nat) (fwd : Bool) (fuel k : Nat) (σ : St) (w : Walk)
    (h : slotsLeft e fwd w < fuel) : walkLoop e t fwd (fuel + k) σ w = walkLoop e t fwd fuel σ w :=
  walkLoop_fuel_irrelevant e t fwd fuel k σ w h

/-- … and `scheduleTask` starts the walk (only from a cursor inside the horizon) with more fuel than that -/
theorem walk_fuel_ample (e : Env) (fwd : Bool) (w : Walk) (hs : e.upper ≤ e.size + 1)
    (hin : ¬ (w.cur < 0 ∨ w.cur > e.upper)) : slotsLeft e fwd w < e.size.toNat + 3 :=
  scheduleTask_fuel_ample e fwd w hs hin

/-- the hypothesis holds for every elaborated project: the scoreboard covers the horizon -/
theorem horizon_covered (p : RawProj) (hG : 0 < p.G) : (elaborate p).env.upper ≤ (elaborate p).env.size + 1 :=
  elaborate_horizon p hG

/-- the two searches for a working slot (`while cur > lower and not …: cur -= 1`, and the forward one) likewise -/
theorem back_search_fuel (e : Env) (p : Int → Bool) (fuel : Nat) (c0 : Int) (h : c0.toNat < fuel) :
    backToWork e p fuel c0 = backToWork e p (fuel + 1) c0 := backToWork_fuel_enough e p fuel c0 h

theorem fwd_search_fuel (e : Env) (fuel : Nat) (c0 : Int) (h : (e.upper - c0).toNat < fuel) :
    fwdToWork e fuel c0 = fwdToWork e (fuel + 1) c0 := fwdToWork_fuel_enough e fuel c0 h

/-- the completion estimate of `_selectBestResources` (`while remaining > 0 and idx < size`) -/
theorem estimate_fuel (e : Env) (σ : St) (r : Nat) (perSlot : Rat) (fuel : Nat) (cur : Int) (rem : Rat)
    (h : (e.size - cur).toNat < fuel) :
    estimateAux e σ r perSlot fuel cur rem = estimateAux e σ r perSlot (fuel + 1) cur rem :=
  estimateAux_fuel_enough e σ r perSlot fuel cur rem h

/-- **the ALAP marking** (`_markTaskALAP`, a depth-first walk with a processed set; the code has no fuel): every step
    decreases `alapMeasure` (stack length + the cost of the unprocessed tasks), so fuel above it never matters … -/
theorem alap_marking_fuel (e : Env) (fuel : Nat) (stack processed : List Nat) (σ : St)
    (h : alapMeasure e stack processed < fuel) :
    markAlap e fuel stack processed σ = markAlap e (fuel + 1) stack processed σ :=
  markAlap_fuel_enough e fuel stack processed σ h

/-- … and the `n² + n + 1` units `propagateAlap` hands out per anchor exceed it whenever no task lists more predecessors
    than there are tasks (no repeated edges) -/
theorem alap_marking_fuel_ample (e : Env) (hb : DepsBounded e) (a : Nat) (ha : a < e.tasks.size) (processed : List Nat)
    (hp : processed.contains a = true) (preds : List Nat) (hpl : preds.length ≤ (e.taskD a).deps.length) :
    alapMeasure e preds processed < e.tasks.size * e.tasks.size + e.tasks.size + 1 :=
  markAlap_fuel_ample e hb a ha processed hp preds hpl

/-- **nothing is booked outside the scheduling horizon** (`Proofs/Horizon`, by the induction principle over reachable states):
    after scheduling ANY well-formed project every ledger entry lies at a slot `0 ≤ i ≤ upper` -/
theorem bookings_inside_horizon (e : Env) (wf : WF e) (r : Nat) (i : Int)
    (h : ((runScenario e).led.get r i).usage ≠ []) : 0 ≤ i ∧ i ≤ e.upper :=
  runScenario_inHorizon e wf r i h

/-- **a scheduled task has start ≤ end inside the scheduling horizon**: after scheduling ANY well-formed project, every effort
    task with a single selected resource that is reported as scheduled has a reported start and a reported end with
    `project start ≤ start ≤ end ≤ end of the horizon` (`time (upper + 1)`) -/
theorem scheduled_dates_inside_horizon (e : Env) (wf : WF e) (t r : Nat) (hel : Elig e t r)
    (hs : ((runScenario e).tst t).scheduled = true) :
    ∃ s v, ((runScenario e).tst t).start = some s ∧ ((runScenario e).tst t).stop = some v ∧
      e.time 0 ≤ s ∧ s ≤ v ∧ v ≤ e.time (e.upper + 1) := by
  have hd := runScenario_scheduled_done e t ⟨hel.leaf, hel.effort, hel.nomile⟩ hs
  obtain ⟨s, v, h1, h2, h3, h4⟩ := Framed.inside wf (runScenario_inHorizon e wf) (runScenario_framed_all e wf t r hel hd)
  obtain ⟨s', v', h1', h2', hle⟩ := (runScenario_ordered e wf).1 t r hel hd
  rw [h1] at h1'; rw [h2] at h2'
  cases h1'; cases h2'
  exact ⟨s, v, h1, h2, h3, hle, h4⟩

/-- the same bounds for every member of a team of one common efficiency (both modes) -/
theorem team_dates_inside_horizon (e : Env) (wf : WF e) (t : Nat) (sel : List Nat) (η : Rat) (hel : TeamElig e t sel η)
    (r : Nat) (hr : r ∈ sel) (hs : ((runScenario e).tst t).scheduled = true) :
    ∃ s v, ((runScenario e).tst t).start = some s ∧ ((runScenario e).tst t).stop = some v ∧
      e.time 0 ≤ s ∧ v ≤ e.time (e.upper + 1) :=
  Framed.inside wf (runScenario_inHorizon e wf)
    (runScenario_framedT_all e wf t sel η r hel hr (runScenario_scheduled_done e t ⟨hel.leaf, hel.effort, hel.nomile⟩ hs))

end SP.C11
