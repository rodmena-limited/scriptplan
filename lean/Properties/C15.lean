import Model
import Proofs.Resolve
import Proofs.Macro
import Proofs.Blank
/-!
C15 — equivalent ways of writing a project give the same schedule.

The scheduler consumes resolved dependency lists and macro-expanded text; a *spelling* only exists in
front of those two steps.  The theorems below are about the two steps as the REPAIRED code performs
them (`notes/patches/F10.diff`, `F11.diff`, `F14.diff`), for all task trees / texts:

  resolve_rename        renaming local ids by an injective map commutes with resolution
  resolve_rel_abs       `!`×k-relative and absolute references to one task resolve to that task
  precedes_is_depends   `A precedes B {opts}` leaves exactly the list `B depends A {opts}` leaves
  precedes_twice        … and stating it again adds nothing (no duplicates)
  strip_comments_idem   `strip_shell_comments` is idempotent
  macro_inline_pass / macro_inline / process_inline
                        a use `${m}` of a parameterless, `$`-free macro = its body written out
  expand_bounded        the repaired expander never holds more than the bound and makes ≤ 100 passes

The pinned code is refuted on concrete witnesses (`…_pinned_fails`, `expand_unbounded_pinned`): F10, F11, F14.
"Model(AST) = implementation(render_k(AST)) for every spelling k" is the end-to-end statement; it
lives in the correspondence streams and the metamorphic search of `harness/props/c15.py`.
-/
namespace SP.C15
open SP SP.Resolve SP.Macro

/-- **Renaming.**  A consistent injective renaming of local ids (tree and reference alike) does not
    change which task a reference denotes. -/
theorem resolve_rename {α β : Type} [DecidableEq α] [DecidableEq β] (f : α → β)
    (hf : ∀ a b, f a = f b → a = b) (F : Forest α) (src : Pos) (r : Ref α) :
    resolve (mapForest f F) src (r.map f) = resolve F src r :=
  resolve_map f hf F src r

/-- the hypothesis is satisfiable by a non-trivial renaming, and the reference resolves -/
example : (∀ a b : List Char, ('_' :: a) = ('_' :: b) → a = b) ∧
    resolve [.node "x".toList [.node "box".toList []], .node "box".toList [.node "k".toList [], .node "j".toList []]]
      [1, 1] ⟨2, "box".toList, ["k".toList]⟩ = some [1, 0] := by
  refine ⟨fun a b h => by simpa using h, by decide⟩

/-- injectivity is needed: merging two ids changes the answer -/
theorem resolve_rename_needs_injective :
    ¬ ∀ (f : List Char → List Char) (F : Forest (List Char)) (src : Pos) (r : Ref (List Char)),
        resolve (mapForest f F) src (r.map f) = resolve F src r := by
  intro h
  have := h (fun _ => ['z']) [.node ['a'] [], .node ['b'] []] [0] ⟨0, ['b'], []⟩
  revert this
  decide

/-- **Relative = absolute.**  With unique sibling ids, inside the task at `src`, the absolute path of
    `dst` and every `!`×k spelling whose base (the ancestor k levels up; the project root for
    k = depth of `src`) lies above `dst` resolve to `dst`. -/
theorem resolve_rel_abs {α : Type} [DecidableEq α] (F : Forest α) (hu : UniqueSibs F) (src dst : Pos)
    (ids : List α) (hdst : pathIds F dst = some ids) (k : Nat) (hk1 : 1 ≤ k) (hk2 : k ≤ src.length)
    (hanc : src.take (src.length - k) <+: dst) (hlt : src.length - k < dst.length) :
    ∃ rabs rrel, Ref.ofPath 0 ids = some rabs ∧ Ref.ofPath k (ids.drop (src.length - k)) = some rrel ∧
      resolve F src rabs = some dst ∧ resolve F src rrel = some dst :=
  resolve_rel_abs_pos F hu src dst ids hdst k hk1 hk2 hanc hlt

/-- the F10 tree: `x.box` is declared before `box` -/
def f10Forest : Forest (List Char) :=
  [.node "x".toList [.node "box".toList []], .node "box".toList [.node "k".toList [], .node "j".toList []]]

/-- hypotheses of `resolve_rel_abs` hold on the F10 tree for `box.j depends !k` / `depends box.k` -/
example : UniqueSibs f10Forest ∧ pathIds f10Forest [1, 0] = some ["box".toList, "k".toList] ∧
    ([1, 1] : Pos).take (2 - 1) <+: [1, 0] := by
  refine ⟨by decide, by decide, ⟨[0], by decide⟩⟩

/-- the same statement about the PINNED root search (first task anywhere with the head's local id) -/
def rel_abs_pinned : Prop :=
  ∀ (F : Forest (List Char)) (_ : UniqueSibs F) (src dst : Pos) (ids : List (List Char))
    (_ : pathIds F dst = some ids) (k : Nat) (_ : 1 ≤ k) (_ : k ≤ src.length)
    (_ : src.take (src.length - k) <+: dst) (_ : src.length - k < dst.length),
    ∃ rabs rrel, Ref.ofPath 0 ids = some rabs ∧ Ref.ofPath k (ids.drop (src.length - k)) = some rrel ∧
      resolvePinned F src rabs = some dst ∧ resolvePinned F src rrel = some dst

/-- **F10 (refutation).**  On the pinned code `depends box.k` inside `box.j` resolves to nothing. -/
theorem rel_abs_pinned_fails : ¬ rel_abs_pinned := by
  intro h
  obtain ⟨rabs, rrel, h1, _, h3, _⟩ :=
    h f10Forest (by decide) [1, 1] [1, 0] ["box".toList, "k".toList] (by decide) 1 (by decide) (by decide)
      ⟨[0], by decide⟩ (by decide)
  simp only [Ref.ofPath, Option.some.injEq] at h1
  subst h1
  revert h3
  decide

/-- **Strings.**  A reference whose ids contain no dot and whose first id is non-empty and does not
    start with `!` (every `ID` token of the grammar is such an id) is parsed back exactly as written. -/
theorem parse_render (r : Ref (List Char)) (hd : ∀ p ∈ r.path, ∀ x ∈ p, x ≠ '.')
    (hne : r.head ≠ []) (hb : r.head.head? ≠ some '!') : parseRef (renderRef r) = some r :=
  parseRef_renderRef r hd hne hb

/-- ids as the grammar's `ID` token produces them, as far as reference syntax cares -/
def IdLike (p : List Char) : Prop := p ≠ [] ∧ p.head? ≠ some '!' ∧ ∀ x ∈ p, x ≠ '.'

/-- **Relative = absolute, on reference strings** (`_resolve_task_reference` as called by the builder) -/
theorem resolve_rel_abs_str (F : Forest (List Char)) (hu : UniqueSibs F) (src dst : Pos)
    (ids : List (List Char)) (hdst : pathIds F dst = some ids) (hids : ∀ p ∈ ids, IdLike p)
    (k : Nat) (hk1 : 1 ≤ k) (hk2 : k ≤ src.length)
    (hanc : src.take (src.length - k) <+: dst) (hlt : src.length - k < dst.length) :
    ∃ rabs rrel, Ref.ofPath 0 ids = some rabs ∧ Ref.ofPath k (ids.drop (src.length - k)) = some rrel ∧
      resolveStr F src (renderRef rabs) = some dst ∧ resolveStr F src (renderRef rrel) = some dst := by
  obtain ⟨rabs, rrel, h1, h2, h3, h4⟩ := resolve_rel_abs F hu src dst ids hdst k hk1 hk2 hanc hlt
  have wf : ∀ (up : Nat) (l : List (List Char)) (r : Ref (List Char)), (∀ p ∈ l, IdLike p) →
      Ref.ofPath up l = some r → parseRef (renderRef r) = some r := by
    intro up l r hl hr
    cases l with
    | nil => simp [Ref.ofPath] at hr
    | cons h t =>
      simp only [Ref.ofPath, Option.some.injEq] at hr
      subst hr
      exact parse_render _ (fun p hp => (hl p hp).2.2) (hl h (by simp)).1 (hl h (by simp)).2.1
  refine ⟨rabs, rrel, h1, h2, ?_, ?_⟩
  · simp [resolveStr, wf 0 ids rabs hids h1, h3]
  · simp [resolveStr, wf k _ rrel (fun p hp => hids p (List.mem_of_mem_drop hp)) h2, h4]

example : parseRef "!!box.k".toList = some ⟨2, "box".toList, ["k".toList]⟩ ∧
    renderRef ⟨2, "box".toList, ["k".toList]⟩ = "!!box.k".toList ∧
    (∀ p ∈ ["box".toList, "k".toList], IdLike p) := by
  -- a literal's `toList` is rewritten to the list of its characters (the literal unifies with `String.ofList _`);
  -- evaluating `String.toList` itself would make the kernel decode the UTF-8 bytes, the dearest part of such a test
  repeat rw [String.toList_ofList]
  unfold IdLike
  decide

/-- **`A precedes B {opts}` ≡ `B depends A {opts}`.**  When both references resolve and `A` is not yet a
    dependency of `B`, the store after the repaired `_resolve_precedes` step is the store
    `_resolve_dependencies` produces for the `depends` spelling: `B`'s list grows by exactly the one entry
    for `A`, options kept, and no other list changes. -/
theorem precedes_is_depends (F : Forest (List Char)) (st : DepStore) (A B : Pos) (refB refA : List Char)
    (opts : DepOpts) (hB : resolveStr F A refB = some B) (hA : resolveStr F B refA = some A)
    (hnew : (getDeps st B).any (fun e => decide (e.target = A)) = false) :
    precedeOne F st A ⟨refB, opts⟩ = resolveDependencies F [(B, [⟨refA, opts⟩])] st ∧
    getDeps (precedeOne F st A ⟨refB, opts⟩) B = getDeps st B ++ [mkEntry A opts] ∧
    ∀ q, q ≠ B → getDeps (precedeOne F st A ⟨refB, opts⟩) q = getDeps st q := by
  have h1 : precedeOne F st A ⟨refB, opts⟩ = extendDeps st B [mkEntry A opts] := by
    simp [precedeOne, hB, hnew]
  refine ⟨?_, ?_, ?_⟩
  · rw [h1]
    simp [resolveDependencies, resolveItems_single F B A refA opts hA]
  · rw [h1, getDeps_extendDeps]; simp
  · intro q hq
    rw [h1, getDeps_extendDeps]; simp [hq]

/-- **Whole project.**  Take a project with pending `depends` lists `pd` and pending `precedes` lists
    `pp`.  Writing one more edge as `A precedes B {opts}` (appended to `pp`) or as `B depends A {opts}`
    (appended to `pd`) gives every task the same dependency list up to the order of its entries —
    provided the project does not already make `A` a dependency of `B`. -/
theorem precedes_is_depends_project (F : Forest (List Char)) (pd pp : List (Pos × List DepItem)) (A B : Pos)
    (refB refA : List Char) (opts : DepOpts)
    (hB : resolveStr F A refB = some B) (hA : resolveStr F B refA = some A)
    (hfresh : (getDeps (finalDeps F pd pp) B).any (fun e => decide (e.target = A)) = false)
    (hno : ∀ pi ∈ pp, ∀ it ∈ pi.2, ¬ (pi.1 = A ∧ resolveStr F pi.1 it.ref = some B)) (q : Pos) :
    (getDeps (finalDeps F (pd ++ [(B, [⟨refA, opts⟩])]) pp) q).Perm
      (getDeps (finalDeps F pd (pp ++ [(A, [⟨refB, opts⟩])])) q) := by
  have hL : finalDeps F (pd ++ [(B, [⟨refA, opts⟩])]) pp =
      resolvePrecedes F pp (extendDeps (resolveDependencies F pd emptyStore) B [mkEntry A opts]) := by
    have hi := resolveItems_single F B A refA opts hA
    rw [finalDeps, resolveDependencies_snoc F pd B _ _ (by simp [hi]), hi]
  have hR : finalDeps F pd (pp ++ [(A, [⟨refB, opts⟩])]) =
      extendDeps (finalDeps F pd pp) B [mkEntry A opts] := by
    rw [finalDeps, resolvePrecedes_snoc, ← finalDeps]
    simp [precedeOne, hB, hfresh]
  have h0 : StoreRel B (mkEntry A opts) (resolveDependencies F pd emptyStore)
      (extendDeps (resolveDependencies F pd emptyStore) B [mkEntry A opts]) := by
    intro q
    rw [getDeps_extendDeps]
    by_cases hq : q = B
    · subst hq; simp
    · simp [hq]
  have h1 := StoreRel.resolvePrecedes F pp (by simpa using hno) h0 q
  rw [hL, hR, getDeps_extendDeps]
  by_cases hq : q = B
  · subst hq
    simp only [if_true] at h1 ⊢
    exact h1.trans (List.perm_append_singleton _ _).symm
  · simpa [hq, finalDeps] using h1

/-- the hypotheses of `precedes_is_depends_project` hold in a project that already has a `depends`
    and another `precedes` -/
example :
    let F : Forest (List Char) := [.node ['a'] [], .node ['b'] [], .node ['c'] []]
    let pd : List (Pos × List DepItem) := [([1], [⟨['c'], {}⟩])]
    let pp : List (Pos × List DepItem) := [([2], [⟨['a'], { onstart := true }⟩])]
    resolveStr F [0] ['b'] = some [1] ∧ resolveStr F [1] ['!', 'a'] = some [0] ∧
      (getDeps (finalDeps F pd pp) [1]).any (fun e => decide (e.target = [0])) = false ∧
      (∀ pi ∈ pp, ∀ it ∈ pi.2, ¬ (pi.1 = [0] ∧ resolveStr F pi.1 it.ref = some [1])) ∧
      getDeps (finalDeps F pd pp) [0] = [.dict [2] { onstart := true }] := by
  decide

/-- **No duplicates.**  Stating the same `precedes` again changes nothing. -/
theorem precedes_twice (F : Forest (List Char)) (st : DepStore) (A : Pos) (it : DepItem) :
    precedeOne F (precedeOne F st A it) A it = precedeOne F st A it := by
  unfold precedeOne
  cases h : resolveStr F A it.ref with
  | none => simp
  | some tgt =>
    simp only []
    by_cases hx : (getDeps st tgt).any (fun e => decide (e.target = A)) = true
    · simp [hx]
    · simp only [hx, Bool.false_eq_true, if_false, getDeps_extendDeps, if_true]
      simp

/-- the hypotheses of `precedes_is_depends` hold for `a precedes b {gapduration 3h}` / `b depends a {…}`
    with `b` already depending on `c` -/
example :
    let F : Forest (List Char) := [.node ['a'] [], .node ['b'] [], .node ['c'] []]
    let st : DepStore := [([1], [.bare [2]])]
    resolveStr F [0] ['b'] = some [1] ∧ resolveStr F [1] ['!', 'a'] = some [0] ∧
      (getDeps st [1]).any (fun e => decide (e.target = [0])) = false ∧
      getDeps (precedeOne F st [0] ⟨['b'], { gapduration := some "3h" }⟩) [1] =
        [.bare [2], .dict [0] { gapduration := some "3h" }] := by
  decide

/-- **F11 (refutation).**  The pinned `_resolve_precedes` on the same input: the option is lost and the
    list is doubled. -/
theorem precedes_pinned_fails :
    getDeps (precedeOnePinned [.node ['a'] [], .node ['b'] [], .node ['c'] []] [([1], [.bare [2]])] [0]
        ⟨['b'], { gapduration := some "3h" }⟩) [1]
      = [.bare [2], .bare [0], .bare [2], .bare [0]] := by decide

/-- **`strip_shell_comments` is idempotent** -/
theorem strip_comments_idem (s : List Char) :
    stripShellComments (stripShellComments s) = stripShellComments s :=
  (stripGo_idem s).1

example : stripShellComments "a \"x # y\" # c 'q\nb".toList = "a \"x # y\" \nb".toList := by
  repeat rw [String.toList_ofList]
  decide

/-- **One pass.**  `${m}` (a plain name, not a built-in) of a macro whose body has no `$` — hence no
    parameter and no further call — expands exactly like the body written in its place, whatever
    surrounds it (`u` must not end inside an open `${` or in `$`). -/
theorem macro_inline_pass (E : Macro.Env) (u m body v : List Char) (hu : Closed u = true) (hm : PlainName m)
    (hb : m ∉ builtinNames) (hl : lookup E.defs m = some body) (hbody : ∀ x ∈ body, x ≠ '$') :
    expandOnce E (u ++ '$' :: '{' :: (m ++ '}' :: v)) = expandOnce E (u ++ (body ++ v)) :=
  expandOnce_inline E u m body v hu hm hb hl hbody

/-- **The whole expander** (`_expand_macros`, with or without the size bound): same outcome — same text,
    or `MacroExpansionError` on both sides — for the text with the call and the text with the body
    written out, as long as the latter is itself within the bound. -/
theorem macro_inline (E : Macro.Env) (cap : Option Nat) (u m body v : List Char) (hu : Closed u = true)
    (hm : PlainName m) (hb : m ∉ builtinNames) (hl : lookup E.defs m = some body)
    (hbody : ∀ x ∈ body, x ≠ '$') (hcap : ∀ k, cap = some k → (u ++ (body ++ v)).length ≤ k) :
    expandMacros E cap (u ++ '$' :: '{' :: (m ++ '}' :: v)) = expandMacros E cap (u ++ (body ++ v)) :=
  expandLoop_inline E cap u m body v hu hm hb hl hbody hcap 99

/-- **From the text.**  A text that starts with the definition `macro NAME [RAW]`, contains no other
    definition, and uses `${NAME}` once: `process` gives what it gives for the text with the stored body
    (`RAW` without `#` comments, stripped) written in place of the call. -/
theorem process_inline (env : Macro.Env) (cap : Option Nat) (name raw u v : List Char)
    (hne : name ≠ []) (hw : ∀ x ∈ name, isWord x = true) (hm : PlainName name) (hb : name ∉ builtinNames)
    (hraw : ∀ x ∈ raw, x ≠ '[' ∧ x ≠ ']')
    (hbody : ∀ x ∈ strip (stripShellComments raw), x ≠ '$')
    (hu : Closed u = true)
    (hrest : extractMacros (u ++ '$' :: '{' :: (name ++ '}' :: v)) = ([], u ++ '$' :: '{' :: (name ++ '}' :: v)))
    (hrest' : extractMacros (u ++ (strip (stripShellComments raw) ++ v)) = ([], u ++ (strip (stripShellComments raw) ++ v)))
    (hcap : ∀ k, cap = some k → (u ++ (strip (stripShellComments raw) ++ v)).length ≤ k) :
    process env cap (defText name raw ++ (u ++ '$' :: '{' :: (name ++ '}' :: v))) =
      process env cap (defText name raw ++ (u ++ (strip (stripShellComments raw) ++ v))) := by
  unfold process
  rw [extract_defText name raw _ hne hw hraw, extract_defText name raw _ hne hw hraw, hrest, hrest']
  exact macro_inline _ cap u name _ v hu hm hb (by simp [lookup]) hbody hcap

/-- hypotheses of `process_inline` hold for
    `macro eff [effort 4h # half a day]` + `task t { ${eff} allocate r }` -/
example :
    let name := "eff".toList
    let raw := "effort 4h # half a day\n".toList
    let u := "\ntask t \"T\" { ".toList
    let v := " allocate r }".toList
    name ≠ [] ∧ (∀ x ∈ name, isWord x = true) ∧ PlainName name ∧ name ∉ builtinNames ∧
      (∀ x ∈ raw, x ≠ '[' ∧ x ≠ ']') ∧ strip (stripShellComments raw) = "effort 4h".toList ∧
      Closed u = true ∧
      extractMacros (u ++ '$' :: '{' :: (name ++ '}' :: v)) = ([], u ++ '$' :: '{' :: (name ++ '}' :: v)) ∧
      process {} (some 5000000) (defText name raw ++ (u ++ '$' :: '{' :: (name ++ '}' :: v))) =
        .ok "\ntask t \"T\" { effort 4h allocate r }".toList := by
  repeat rw [String.toList_ofList]
  decide +kernel

/-- a parameter (`$1`) is outside `macro_inline` (the body contains `$`); it is covered by the
    correspondence stream.  What the model says on an example: -/
example : process {} none "macro m [effort $1 $2]${m 4h \"x\"}".toList = .ok "effort 4h \"x\"".toList := by
  repeat rw [String.toList_ofList]
  decide +kernel

/-! ## F38 (repaired): comments are blanked before macro processing -/

/-- "a `#` comment line in front of a text does not change which macros are defined" — for the extraction step ALONE -/
def comments_inert : Prop :=
  ∀ (c t : List Char), (∀ x ∈ c, x ≠ '\n') → (extractMacros ('#' :: c ++ '\n' :: t)).1 = (extractMacros t).1

/-- **F38 (pinned code, refutation).**  `_extract_macros` has no notion of comments: `# macro a [x]` defines `a`.  On the pinned
    code this step ran on the raw text (witness `findings/F38.json`); the repaired `process` blanks the comments first
    (`Macro.processText`), so the extraction never sees one — next theorems. -/
theorem comments_inert_fails : ¬ comments_inert := by
  intro h
  have := h " macro a [x]".toList []
  rw [String.toList_ofList] at this
  revert this
  decide

/-- **the comment is white space** (`blank_comments`, repaired code): a `#` comment line in front of a text gives the
    preprocessor exactly what the same number of blanks gives — whatever the comment contains (a macro definition, a macro
    call, a project header, quotes).  The whole `process` therefore returns the same outcome for the two texts. -/
theorem comment_is_whitespace (env : Macro.Env) (cap : Option Nat) (c : List Char) (hc : ∀ x ∈ c, x ≠ '\n') (v : List Char) :
    processText env cap ('#' :: c ++ '\n' :: v) = processText env cap (List.replicate (c.length + 1) ' ' ++ '\n' :: v) := by
  unfold processText
  rw [Macro.comment_is_whitespace c hc v]

/-- **a comment anywhere is white space**: wherever the `#` stands outside strings, rich text blocks and other comments (the
    scanner's state after the preceding text `u` is normal — `endSt`, computable), the whole `process` returns the same outcome as
    for the text with the comment replaced by blanks -/
theorem comment_anywhere_is_whitespace (env : Macro.Env) (cap : Option Nat) (u c v : List Char) (hc : ∀ x ∈ c, x ≠ '\n')
    (hn : endSt .normal u '#' = .normal) :
    processText env cap (u ++ '#' :: c ++ '\n' :: v) =
      processText env cap (u ++ List.replicate (c.length + 1) ' ' ++ '\n' :: v) := by
  unfold processText
  rw [Macro.comment_anywhere_is_whitespace u c v hc hn]

/-- non-vacuity: after a task line with a string the scanner is back in its normal state -/
example : endSt .normal "task a \"A # not a comment\" { effort 1h }\n".toList '#' = .normal := by
  rw [String.toList_ofList]
  decide +kernel

/-- blanking replaces characters one for one: positions (line and column of later error messages) are unchanged -/
theorem blank_keeps_positions (s : List Char) : (blankComments s).length = s.length := Macro.blankComments_length s

/-- the F38 witness on the model: the commented-out redefinition does not define -/
example : processText {} none "macro e [4h]\n# macro e [8h]\n${e}".toList = processText {} none "macro e [4h]\n              \n${e}".toList := by
  repeat rw [String.toList_ofList]
  exact comment_anywhere_is_whitespace {} none ['m', 'a', 'c', 'r', 'o', ' ', 'e', ' ', '[', '4', 'h', ']', '\n']
    [' ', 'm', 'a', 'c', 'r', 'o', ' ', 'e', ' ', '[', '8', 'h', ']'] ['$', '{', 'e', '}'] (by decide) (by decide +kernel)

/-- **`expand_bounded` (repaired expander).**  With the bound `k`: (1) at most 100 passes are made and
    every text a pass returns has at most `k` characters; (2) a returned result is the input itself
    (no pass was needed) or has at most `k` characters.  Otherwise the outcome is `tooLarge`. -/
theorem expand_bounded (E : Macro.Env) (k : Nat) (s : List Char) :
    ((expandTrace E (some k) maxIterations s).length ≤ maxIterations ∧
      ∀ c ∈ expandTrace E (some k) maxIterations s, c.length ≤ k) ∧
    ∀ out, expandMacros E (some k) s = .ok out → out = s ∨ out.length ≤ k :=
  ⟨expandTrace_bounded E k maxIterations s, fun out h => expandLoop_bounded E k maxIterations s out h⟩

/-- a pass of the repaired expander is the unbounded pass followed by the size test (so the theorems
    about `expandOnce` speak about the repaired code whenever it does not raise) -/
theorem pass_bounded_eq (E : Macro.Env) (k : Nat) (s : List Char) :
    expandOnceB E (some k) s = if (expandOnce E s).length ≤ k then some (expandOnce E s) else none :=
  expandOnceB_some E k s

/-- **F14 (refutation by a growth lemma).**  With `macro a [${a} ${a}]` every pass of the pinned expander
    doubles the text: after `n` passes `${a}` has become `blow n`, of length `5·2ⁿ − 1`. -/
theorem expand_unbounded_pinned (n : Nat) :
    expandLoop selfDouble none n ['$', '{', 'a', '}'] = .ok (blow n) ∧ (blow n).length + 1 = 5 * 2 ^ n := by
  refine ⟨?_, blow_length n⟩
  have := expandLoop_blow n 0
  simpa [blow] using this

/-- the pinned `_expand_macros` (100 passes) returns a text of `5·2¹⁰⁰ − 1` characters -/
theorem expand_pinned_result_size :
    ∃ out, expandMacros selfDouble none ['$', '{', 'a', '}'] = .ok out ∧ out.length + 1 = 5 * 2 ^ 100 :=
  ⟨blow 100, (expand_unbounded_pinned 100).1, (expand_unbounded_pinned 100).2⟩

/-- "the expansion stays within a million times the size of what was written" — a very generous
    bound, stated for the PINNED expander (no size test) -/
def expand_bounded_pinned : Prop :=
  ∀ (E : Macro.Env) (s out : List Char), expandMacros E none s = .ok out →
    out.length ≤ 1000000 * (s.length + (E.defs.map (fun d => d.2.length)).sum + 1)

/-- **F14.**  The pinned expander violates even that bound on `macro a [${a} ${a}]` + `${a}`. -/
theorem expand_bounded_pinned_fails : ¬ expand_bounded_pinned := by
  intro h
  obtain ⟨out, h1, h2⟩ := expand_pinned_result_size
  have := h selfDouble _ out h1
  simp only [selfDouble, List.length_cons, List.length_nil, List.map_cons, List.map_nil, List.sum_cons,
    List.sum_nil] at this
  have e : out.length + 1 = 6338253001141147007483516026880 := by rw [h2]
  omega

/-- the witness as text: extraction yields exactly `selfDouble` -/
example : extractMacros "macro a [${a} ${a}]${a}".toList = (selfDouble.defs, "${a}".toList) := by
  repeat rw [String.toList_ofList]
  decide +kernel

/-- the repaired expander on the same witness raises (shown for a bound of 60 characters) -/
example : expandMacros selfDouble (some 60) ['$', '{', 'a', '}'] = .tooLarge := by decide +kernel

end SP.C15
