import Model
import Model.Elab
import Proofs.Walk
import Proofs.Team
import Proofs.TeamAll
import Proofs.EffortGlobal
import Proofs.TeamEffort
import Proofs.OneSet
import Proofs.TeamSame
import Proofs.EffortAlt
import Proofs.TeamLimits
import Proofs.WFCheck
/-!
C03 — a scheduled task receives exactly its effort.

Exactness of the credit and of the tail release (for every effort, efficiency, resolution and
prior usage of the slot); one candidate set; and the team clause: the members of a team are levelled to
the busiest member before they are booked, so they are booked for the same seconds of every slot, and a
limit counter the members share is checked for the whole team (findings F31/F32, repaired in /repo).
-/
namespace SP.C03
open SP

/-- every booking credits `seconds x efficiency / 3600` hours, and those seconds are what the ledger records -/
theorem credit (e : Env) (σ : St) (r : Nat) (i : Int) (t : Nat) :
    (bookSlot e σ r i t).2 = availSecs e.G (σ.led.get r i) / 3600 * (e.resD r).eff ∧
    ((bookSlot e σ r i t).1.led.get r i).usage = (σ.led.get r i).usage ++ [(t, availSecs e.G (σ.led.get r i))] :=
  ⟨bookSlot_gain e σ r i t, bookSlot_entry e σ r i t⟩

/-- the finishing slot: the seconds kept give exactly the missing effort, never more than was booked —
    so the effort received is exact, and no further slot is needed -/
theorem finish_exact (effort before a eff : Rat) (heff : 0 < eff) (hlt : before < effort)
    (hge : effort ≤ before + a / 3600 * eff) :
    0 < (effort - before) / (eff / 3600) ∧ (effort - before) / (eff / 3600) ≤ a ∧
    before + (effort - before) / (eff / 3600) / 3600 * eff = effort :=
  SP.finish_exact effort before a eff heff hlt hge

/-- the model's release amount is that exact value -/
theorem release_amount (e : Env) (σ : St) (t : Nat) (w : Walk) (before : Rat) (r : Nat) (a : Rat)
    (wf : WF e) (hlt : before < (e.taskD t).effort)
    (hge : (e.taskD t).effort ≤ before + a / 3600 * (e.resD r).eff)
    (ha : a ≤ (e.G : Rat)) (hu : usageOf (σ.led.get r w.cur).usage t = some a) :
    needSecs e σ t w before r = ((e.taskD t).effort - before) / ((e.resD r).eff / 3600) :=
  needSecs_eq e σ t w before r a (wf.eff_pos r) hlt hge ha hu

/-- never a further slot: the walk stops in the first slot in which `done ≥ effort` -/
theorem stops_when_done (e : Env) (σ : St) (t : Nat) (w : Walk)
    (hms : ((e.taskD t).milestone || (e.taskD t).effort == 0) = false)
    (hd : (bookResources e σ t w).2.done ≥ (e.taskD t).effort) : (scheduleSlot e σ t w).2.2 = false := by
  rw [(scheduleSlot_fin e σ t w hms hd).1]

/-- an allocation with alternatives uses exactly one of the two candidate lists, chosen once -/
theorem one_candidate_set (e : Env) (σ : St) (prim alt : List Nat) (effort : Rat) (cur : Int) :
    selectBest e σ prim alt effort cur = prim ∨ selectBest e σ prim alt effort cur = alt ∨
    selectBest e σ prim alt effort cur = [] := by
  rcases selectBest_cases e σ prim alt effort cur with h | h | h
  · exact Or.inr (Or.inr h)
  · exact Or.inl h
  · exact Or.inr (Or.inl h)

theorem selection_sticks (e : Env) (σ : St) (t : Nat) (w : Walk) (s : List Nat) (h : w.selected = some s) :
    selectedOf e σ t w = s :=
  selectedOf_some e σ t w s h

/-- a task whose only allocation is the resource `r` (no alternatives) selects `[r]` in every state -/
theorem elig_of_single (e : Env) (t r : Nat) (hlf : (e.taskD t).leaf = true) (ha : (e.taskD t).hasAlloc = true)
    (hm : (e.taskD t).milestone = false) (hpos : 0 < (e.taskD t).effort)
    (hal : (e.taskD t).alloc = [r]) (halt : (e.taskD t).alt = []) : Elig e t r :=
  ⟨hlf, ha, hm, hpos, fun σ c => by rw [hal, halt]; exact selectBest_single e σ r _ c⟩

/-- **one task, end to end** (`TaskScenario.schedule()`): started in any state that satisfies the scheduler
    invariant and holds nothing of the task on `r`, a successful run leaves entries of the task on `r` in a set of
    distinct slots `vis` and nowhere else on `r`, and (Σ seconds over `vis`) x efficiency / 3600 = effort, exactly -/
theorem task_effort_exact (e : Env) (wf : WF e) (σ : St) (t r : Nat) (hinv : Inv e σ) (hel : Elig e t r)
    (hnd : (σ.tst t).done = false) (hclean : ∀ i, usageOf (σ.led.get r i).usage t = none)
    (hok : (scheduleTask e σ t).2 = true) :
    ∃ vis : List Int, vis.Nodup ∧ (∀ i, i ∉ vis → usageOf ((scheduleTask e σ t).1.led.get r i).usage t = none) ∧
      sumOver (scheduleTask e σ t).1.led r t vis / 3600 * (e.resD r).eff = (e.taskD t).effort :=
  scheduleTask_exact e wf σ t r hinv hel.leaf hel.alloc hel.nomile hel.effort hel.sel hnd hclean hok

/-- **C03 for whole projects**: after scheduling ANY well-formed project, every effort task with a single selected
    resource `r` that is reported as scheduled holds, in the final ledger, entries on `r` in distinct slots `vis` and
    nowhere else on `r`, whose seconds weighted by the efficiency of `r` add up to exactly the requested effort —
    never less, and no further slot.  (All efforts, efficiencies, resolutions, calendars, limits, priorities,
    dependencies, ASAP and ALAP, whatever else is booked.) -/
theorem effort_exact (e : Env) (wf : WF e) (t r : Nat) (hel : Elig e t r)
    (hs : ((runScenario e).tst t).scheduled = true) :
    ∃ vis : List Int, vis.Nodup ∧ (∀ i, i ∉ vis → usageOf ((runScenario e).led.get r i).usage t = none) ∧
      sumOver (runScenario e).led r t vis / 3600 * (e.resD r).eff = (e.taskD t).effort :=
  runScenario_effort_exact e wf t r hel
    (runScenario_scheduled_done e t ⟨hel.leaf, hel.effort, hel.nomile⟩ hs)

/-- the same for the environment elaborated from a project description, under the decidable check -/
theorem effort_exact_elab (p : RawProj) (h : wfCheck (elaborate p).env = true) (t r : Nat)
    (hel : Elig (elaborate p).env t r) (hs : ((runScenario (elaborate p).env).tst t).scheduled = true) :
    ∃ vis : List Int, vis.Nodup ∧
      (∀ i, i ∉ vis → usageOf ((runScenario (elaborate p).env).led.get r i).usage t = none) ∧
      sumOver (runScenario (elaborate p).env).led r t vis / 3600 * ((elaborate p).env.resD r).eff
        = ((elaborate p).env.taskD t).effort :=
  effort_exact _ (wfCheck_sound _ h) t r hel hs

/-- non-vacuity: the witness of finding F13 (efficiency 0.7, effort 2.1 h — three slots of a double sum to
    2.0999999999999996) is a well-formed project whose task is eligible -/
def f13 : RawProj :=
  { G := 3600, start := 1736121600, stop := 1737331200,
    res := [{ eff := some (7/10) }],
    tasks := [{ effort := some (21/10), alloc := some ([0], []) }] }

example : wfCheck (elaborate f13).env = true := by decide +kernel
example : Elig (elaborate f13).env 0 0 :=
  elig_of_single _ 0 0 (by decide +kernel) (by decide +kernel) (by decide +kernel) (by decide +kernel)
    (by decide +kernel) (by decide +kernel)

/-- the team clause of C03 at the level of one slot, for members booked one by one without levelling:
    when a team task books the same slot on two members (each satisfying the slot invariant), both
    receive the same seconds -/
def TeamSameSeconds : Prop :=
  ∀ (G : Int) (s0 s1 : Slot) (t : Nat), 0 < G → SlotInv G s0 → SlotInv G s1 →
    availSecs G s0 > 0 → availSecs G s1 > 0 →
    usageOf (s0.book G t).usage t = usageOf (s1.book G t).usage t

/-- **refuted** — finding F32, on code that books the members as they are: member r0 already carries 1200 s of
    another task in the slot, member r1 is free; both pass the availability gate, r0 is booked for 2400 s and r1
    for 3600 s.  The repaired code levels the team first (next theorems). -/
theorem unlevelled_team_fails : ¬ TeamSameSeconds := by
  intro h
  have hs0 : SlotInv 3600 { used := 1200, usage := [(0, 1200)] } :=
    ⟨by decide +kernel, by decide +kernel, by decide +kernel, by intro e he; simp at he; subst he; decide +kernel⟩
  have hs1 : SlotInv 3600 {} := slotInv_empty 3600 (by decide)
  have := h 3600 { used := 1200, usage := [(0, 1200)] } {} 1 (by decide) hs0 hs1 (by decide +kernel) (by decide +kernel)
  revert this
  decide +kernel

/-- members whose slots are equally used receive the same seconds -/
theorem team_partial (G : Int) (s0 s1 : Slot) (t : Nat) (hu : s0.used = s1.used)
    (h0 : usageOf s0.usage t = none) (h1 : usageOf s1.usage t = none) :
    usageOf (s0.book G t).usage t = usageOf (s1.book G t).usage t := by
  simp only [Slot.book]
  rw [usageOf_append_none _ _ _ h0, usageOf_append_none _ _ _ h1]
  simp [availSecs, hu]

/-- **levelling** (`bookResources` after the repair of F32): in the state the members are booked in, every
    member's slot is used up to the same instant — that of the busiest member — whatever was there before -/
theorem team_levelled (σ : St) (cur : Int) (sel : List Nat) (r0 r1 : Nat) (h0 : r0 ∈ sel) (h1 : r1 ∈ sel) :
    ((levelTeam σ cur sel).led.get r0 cur).used = ((levelTeam σ cur sel).led.get r1 cur).used := by
  rw [levelTeam_used σ cur sel r0 h0, levelTeam_used σ cur sel r1 h1]

/-- **same instants**: any two members of a levelled team are booked for the same seconds of the slot,
    `[common, G)` — for every state, every team, every slot -/
theorem team_same_seconds (G : Int) (σ : St) (t : Nat) (cur : Int) (sel : List Nat) (r0 r1 : Nat)
    (h0 : r0 ∈ sel) (h1 : r1 ∈ sel)
    (hn0 : usageOf (σ.led.get r0 cur).usage t = none) (hn1 : usageOf (σ.led.get r1 cur).usage t = none) :
    usageOf (((levelTeam σ cur sel).led.get r0 cur).book G t).usage t =
      usageOf (((levelTeam σ cur sel).led.get r1 cur).book G t).usage t := by
  apply team_partial G _ _ t (team_levelled σ cur sel r0 r1 h0 h1)
  · rw [levelTeam_usage]; exact hn0
  · rw [levelTeam_usage]; exact hn1

/-- the state a team is booked in is the levelled one -/
theorem team_is_levelled (e : Env) (σ : St) (t : Nat) (cur : Int) (sel : List Nat) (h : isTeam e t sel = true) :
    leveled e σ t cur sel = levelTeam σ cur sel := by
  unfold leveled; simp [h]

/-- **shared resource limit** (finding F31, repaired): a limit counter that both members of a team increment
    (a limit on a group above both) must have room for both — with room for one only, the gate rejects the
    team and nobody is booked -/
theorem shared_limit_counts_whole_team (e : Env) (wf : WF e) (σ : St) (t : Nat) (i : Int) (r0 r1 lid : Nat)
    (h0 : lid ∈ resLimitIds e r0) (h1 : lid ∈ resLimitIds e r1)
    (hnof : (e.limitD lid).res = none) (hk : 0 ≤ e.period (e.limitD lid) i)
    (hleft : (e.limitD lid).value ≤ σ.cnt.get lid (e.period (e.limitD lid) i) + 1) :
    teamGateOk e t i σ [r0, r1] = false := by
  cases hg : teamGateOk e t i σ [r0, r1] with
  | false => rfl
  | true =>
    exfalso
    simp only [teamGateOk, Bool.and_true, Bool.and_eq_true] at hg
    obtain ⟨_, ⟨ha1, _⟩⟩ := hg
    have hok := (available_true ha1).2.2 lid h1
    unfold limitOk at hok
    simp only [hnof, Option.isSome_none, Bool.false_and, Bool.false_eq_true, if_false] at hok
    have hk' : ¬ e.period (e.limitD lid) i < 0 := by omega
    simp only [hk', if_false, decide_eq_true_eq] at hok
    have hcnt := incAll_cnt_mem e σ (bookPairs e r0 t) i lid none
      (bookPairs_nodup e wf r0 t)
      (by simp only [bookPairs, List.mem_append, List.mem_map]; exact Or.inl ⟨lid, h0, rfl⟩)
      (by simp [hnof]) hk
    rw [countMember_eq] at hok
    omega

/-- **a team books all of its members for the same instants, or nobody** (`bookResources`, one slot, after the
    repairs of F31 and F32): for a team task with pairwise different selected members, in any state satisfying the
    scheduler invariant in which the task has no entry in the slot yet — whatever the members' prior usage of the slot,
    their limits and shared limits, the start offset — after `bookResources` either no member holds an entry of the
    task in that slot, or every member holds one, all of them for the same `a > 0` seconds (the instants
    `[G − a, G)` of the slot, as every member's slot was levelled to the same `used` before) -/
theorem team_all_or_nobody_same_seconds (e : Env) (wf : WF e) (σ : St) (t : Nat) (w : Walk)
    (hinv : Inv e σ) (ha : (e.taskD t).hasAlloc = true)
    (hteam : isTeam e t (selectedOf e σ t w) = true) (hnd : (selectedOf e σ t w).Nodup)
    (hclean : ∀ r ∈ selectedOf e σ t w, usageOf (σ.led.get r w.cur).usage t = none) :
    (∀ r ∈ selectedOf e σ t w, usageOf ((bookResources e σ t w).1.led.get r w.cur).usage t = none) ∨
    (∃ a, 0 < a ∧ ∀ r ∈ selectedOf e σ t w, usageOf ((bookResources e σ t w).1.led.get r w.cur).usage t = some a) :=
  bookResources_team e wf σ t w hinv ha hteam hnd hclean

example : usageOf ({ used := 1200, usage := [(0, 1200)] } : Slot).usage 1 = none := by decide +kernel

/-- a task whose allocation is the list `sel` of several pairwise different resources with one common positive efficiency
    (no alternatives) is a team task in every state -/
theorem teamElig_of_alloc (e : Env) (t : Nat) (sel : List Nat) (η : Rat) (hlf : (e.taskD t).leaf = true)
    (ha : (e.taskD t).hasAlloc = true) (hm : (e.taskD t).milestone = false) (hpos : 0 < (e.taskD t).effort)
    (hal : (e.taskD t).alloc = sel) (halt : (e.taskD t).alt = []) (hmany : 1 < sel.length) (hnd : sel.Nodup)
    (heff : ∀ r ∈ sel, (e.resD r).eff = η) (hη : 0 < η) : TeamElig e t sel η :=
  ⟨hlf, ha, hm, hpos, fun σ c => by rw [hal, halt]; exact selectBest_noAlt e σ sel _ c hmany, hmany, hnd, heff, hη⟩

/-- **C03 for teams, whole projects**: after scheduling ANY well-formed project, every team task (its allocation always
    selects the same several members `sel`, pairwise different, of one common efficiency `η`) that is reported as scheduled
    holds, in the final ledger, for EVERY member entries in one common list of distinct slots `vis` and nowhere else; in every
    slot all members hold the same seconds (the same instants); and each member's seconds weighted by `η` add up to exactly
    the requested effort — never less, and no further slot.  (Whatever else is booked on the members, all calendars, limits
    shared or not, ASAP and ALAP.) -/
theorem team_effort_exact (e : Env) (wf : WF e) (t : Nat) (sel : List Nat) (η : Rat) (hel : TeamElig e t sel η)
    (hs : ((runScenario e).tst t).scheduled = true) :
    ∃ vis : List Int, vis.Nodup ∧
      (∀ r ∈ sel, ∀ i, i ∉ vis → usageOf ((runScenario e).led.get r i).usage t = none) ∧
      (∀ r ∈ sel, sumOver (runScenario e).led r t vis / 3600 * η = (e.taskD t).effort) ∧
      (∀ r ∈ sel, ∀ r' ∈ sel, ∀ i,
        usageOf ((runScenario e).led.get r i).usage t = usageOf ((runScenario e).led.get r' i).usage t) :=
  runScenario_team_effort_exact e wf t sel η hel
    (runScenario_scheduled_done e t ⟨hel.leaf, hel.effort, hel.nomile⟩ hs)

/-- the same for the environment elaborated from a project description, under the decidable check -/
theorem team_effort_exact_elab (p : RawProj) (h : wfCheck (elaborate p).env = true) (t : Nat) (sel : List Nat) (η : Rat)
    (hel : TeamElig (elaborate p).env t sel η) (hs : ((runScenario (elaborate p).env).tst t).scheduled = true) :
    ∃ vis : List Int, vis.Nodup ∧
      (∀ r ∈ sel, ∀ i, i ∉ vis → usageOf ((runScenario (elaborate p).env).led.get r i).usage t = none) ∧
      (∀ r ∈ sel, sumOver (runScenario (elaborate p).env).led r t vis / 3600 * η = ((elaborate p).env.taskD t).effort) ∧
      (∀ r ∈ sel, ∀ r' ∈ sel, ∀ i,
        usageOf ((runScenario (elaborate p).env).led.get r i).usage t
          = usageOf ((runScenario (elaborate p).env).led.get r' i).usage t) :=
  team_effort_exact _ (wfCheck_sound _ h) t sel η hel hs

/-- non-vacuity: the witness of finding F32 (two members, one partly used by another task) is a well-formed project whose
    second task is a team task -/
def f32 : RawProj :=
  { G := 3600, start := 1736121600, stop := 1737331200,
    res := [{ }, { }],
    tasks := [{ effort := some (1/3), alloc := some ([0], []), prio := some 900 },
              { effort := some 3, alloc := some ([0, 1], []) }] }

example : wfCheck (elaborate f32).env = true := by decide +kernel
example : TeamElig (elaborate f32).env 1 [0, 1] 1 :=
  teamElig_of_alloc _ 1 [0, 1] 1 (by decide +kernel) (by decide +kernel) (by decide +kernel) (by decide +kernel)
    (by decide +kernel) (by decide +kernel) (by decide +kernel) (by decide +kernel)
    (by intro r hr; simp at hr; rcases hr with h | h <;> subst h <;> decide +kernel) (by decide +kernel)

/-- **C03, third clause, for whole projects** (`Proofs/OneSet`): after scheduling ANY project — no hypothesis at all — all the
    bookings of any task lie on the members of ONE candidate set: its primary allocation or its alternative allocation
    (whichever `_selectBestResources` chose at the task's first slot), never a mixture of the two and never a resource outside
    both. -/
theorem bookings_on_one_candidate_set (e : Env) (t : Nat) :
    ∃ S : List Nat, (S = [] ∨ S = (e.taskD t).alloc ∨ S = (e.taskD t).alt) ∧
      ∀ r i, usageOf ((runScenario e).led.get r i).usage t ≠ none → r ∈ S :=
  runScenario_oneSet e t

/-- a task whose allocation is a list of several pairwise different resources (no alternatives) is a team task in every state -/
theorem teamAny_of_alloc (e : Env) (t : Nat) (sel : List Nat) (hlf : (e.taskD t).leaf = true)
    (ha : (e.taskD t).hasAlloc = true) (hm : (e.taskD t).milestone = false) (hpos : 0 < (e.taskD t).effort)
    (hal : (e.taskD t).alloc = sel) (halt : (e.taskD t).alt = []) (hmany : 1 < sel.length) (hnd : sel.Nodup) :
    TeamAny e t sel :=
  ⟨hlf, ha, hm, hpos, fun σ c => by rw [hal, halt]; exact selectBest_noAlt e σ sel _ c hmany, hmany, hnd⟩

/-- **C03, second clause, for whole projects and ANY team** (`Proofs/TeamSame`): after scheduling ANY well-formed project, all
    members of a team allocation — several pairwise different resources, whatever their efficiencies, calendars, limits and
    other bookings — hold entries of the task in exactly the same slots for exactly the same seconds: the team works the same
    instants. -/
theorem team_same_instants (e : Env) (wf : WF e) (t : Nat) (sel : List Nat) (hel : TeamAny e t sel) :
    ∀ r ∈ sel, ∀ r' ∈ sel, ∀ i,
      usageOf ((runScenario e).led.get r i).usage t = usageOf ((runScenario e).led.get r' i).usage t :=
  runScenario_teamsSame e wf t sel hel

/-- **C03, effort clause, tasks with an alternative** (`Proofs/EffortAlt`): after scheduling ANY well-formed project, every
    effort task with one primary and one alternative resource that is reported as scheduled holds, on ONE of the two — the one
    `_selectBestResources` chose at its first slot — entries in distinct slots and nowhere else on it, whose seconds weighted by
    THAT resource's efficiency add up to exactly the requested effort (and by `bookings_on_one_candidate_set` nothing on the
    other). -/
theorem effort_exact_with_alternative (e : Env) (wf : WF e) (t r1 r2 : Nat) (hel : EligAlt e t r1 r2)
    (hs : ((runScenario e).tst t).scheduled = true) :
    ∃ r, (r = r1 ∨ r = r2) ∧ ∃ vis : List Int, vis.Nodup ∧
      (∀ i, i ∉ vis → usageOf ((runScenario e).led.get r i).usage t = none) ∧
      sumOver (runScenario e).led r t vis / 3600 * (e.resD r).eff = (e.taskD t).effort := by
  obtain ⟨r, vis, hr, hv⟩ := runScenario_effort_exact_alt e wf t r1 r2 hel
    (runScenario_scheduled_done e t ⟨hel.leaf, hel.effort, hel.nomile⟩ hs)
  exact ⟨r, hr, vis, hv⟩

end SP.C03
