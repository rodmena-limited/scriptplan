import Model
import Proofs.Order
import Proofs.Frozen
import Proofs.Intruder
import Proofs.WFCheck
/-!
C09 — lower-priority work never disturbs higher-priority work.

The work list is sorted by priority (ties in declaration order); a task with strictly lowest priority is
its last element; the loop always picks the first ready task of the list — so the added task is picked
only when none of the other remaining tasks is ready, and of two ready competitors the one with the
strictly higher priority is picked first.  And what is placed later cannot disturb what was placed earlier:
a completed task keeps its dates and every one of its bookings until the end of the loop (`placed_is_frozen`).
The relation between the two runs — with and without the added task — is `lowest_priority_intruder_harmless`
(`Proofs/Intruder`: a congruence of every scheduler function in the environment, and a simulation of the two pick loops).
-/
namespace SP.C09
open SP

theorem worklist_sorted (e : Env) (l : List Nat) :
    (l.mergeSort (prioLe e)).Pairwise (fun a b => prioLe e a b = true) := todo_sorted e l

/-- the strictly lowest priority is placed last -/
theorem lowest_priority_last (e : Env) (l : List Nat) (L : Nat) (hL : L ∈ l) (hnd : l.Nodup)
    (hlow : ∀ x ∈ l, x ≠ L → (e.taskD x).prio > (e.taskD L).prio) :
    ∃ pre, l.mergeSort (prioLe e) = pre ++ [L] := lowest_is_last e l L hL hnd hlow

/-- the loop picks the first ready task in list order -/
theorem first_ready_wins (e : Env) (σ : St) (tasks : List Nat) (t : Nat)
    (h : tasks.find? (fun t => ready e σ t) = some t) :
    ready e σ t = true ∧ ∃ pre post, tasks = pre ++ t :: post ∧ ∀ x ∈ pre, ready e σ x = false :=
  picks_first_ready e σ tasks t h

/-- hence the added task `L` (last) is picked only when no other remaining task is ready -/
theorem lowest_picked_only_when_alone (e : Env) (σ : St) (pre : List Nat) (L : Nat)
    (h : (pre ++ [L]).find? (fun t => ready e σ t) = some L) (hL : L ∉ pre) : ∀ x ∈ pre, ready e σ x = false := by
  intro x hx
  -- a ready task in `pre` would make the search stop inside `pre`, at a task other than `L`
  rw [List.find?_append] at h
  cases hp : pre.find? (fun t => ready e σ t) with
  | none => simpa using List.find?_eq_none.mp hp x hx
  | some y =>
    rw [hp] at h
    have hy : y = L := by simpa using h
    exact absurd (hy ▸ List.mem_of_find?_eq_some hp) hL

/-- served first: of two tasks of the work list, the one that comes first has at least the priority of the other -/
theorem served_first (e : Env) (l : List Nat) (a b : Nat) (pre mid post : List Nat)
    (hsplit : l.mergeSort (prioLe e) = pre ++ b :: mid ++ a :: post) : (e.taskD b).prio ≥ (e.taskD a).prio :=
  higher_first e l a b pre mid post hsplit

/-- **what is placed later does not disturb what was placed earlier**: a leaf task that is completed at some point of
    the scheduling loop has, when the loop ends, exactly the dates and flags and exactly the ledger entries (on every
    resource, in every slot) it had at that point — for every continuation of the loop, whatever the remaining tasks,
    their priorities and their allocations are -/
theorem placed_is_frozen (e : Env) (fuel : Nat) (tasks failed : List Nat) (σ : St) (t : Nat)
    (hlf : (e.taskD t).leaf = true) (hd : (σ.tst t).done = true) :
    (pickLoop e fuel tasks failed σ).1.tst t = σ.tst t ∧
    ∀ r i, usageOf ((pickLoop e fuel tasks failed σ).1.led.get r i).usage t = usageOf (σ.led.get r i).usage t :=
  pickLoop_frozen e fuel tasks failed σ t hlf hd

/-- in particular one more round — scheduling any task `t0` — leaves a completed task untouched -/
theorem one_round_frozen (e : Env) (σ : St) (t0 t : Nat) (hlf : (e.taskD t).leaf = true) (hd : (σ.tst t).done = true) :
    (updateContainers e (scheduleTask e σ t0).1).tst t = σ.tst t ∧
    ∀ r i, usageOf ((updateContainers e (scheduleTask e σ t0).1).led.get r i).usage t = usageOf (σ.led.get r i).usage t :=
  round_frozen e σ t0 t hlf hd

example : ([0, 1, 2] : List Nat).Nodup := by decide

/-- decidable form of the hypotheses of the two-run theorem for the project `e` and the added task `zd` -/
def intrCheck (e : Env) (zd : TaskD) : Bool :=
  (List.range e.tasks.size).all (fun t =>
    (match (e.taskD t).parent with | some p => decide (p < t) | none => true) &&
    (e.taskD t).allDeps.all (fun dp => dp.target != e.tasks.size) &&
    (e.taskD t).deps.all (fun dp => dp.target != e.tasks.size) &&
    !(e.taskD t).children.contains e.tasks.size &&
    decide ((e.taskD t).prio > zd.prio) && (e.taskD t).forward) &&
  zd.leaf && zd.parent.isNone && zd.allDeps.all (fun dp => decide (dp.target < e.tasks.size)) && zd.limits.isEmpty &&
    zd.forward && !e.projAlap

theorem intrCheck_sound (e : Env) (zd : TaskD) (h : intrCheck e zd = true) :
    Intr e zd ∧ FwdEnv e ∧ zd.forward = true ∧ ∀ t, t < e.tasks.size → (e.taskD t).prio > zd.prio := by
  unfold intrCheck at h
  simp only [Bool.and_eq_true, List.all_eq_true, List.mem_range, Bool.not_eq_true', decide_eq_true_eq,
    Option.isNone_iff_eq_none, List.isEmpty_iff, bne_iff_ne, ne_eq] at h
  obtain ⟨⟨⟨⟨⟨⟨hall, hleaf⟩, hpar⟩, hdeps⟩, hlim⟩, hfwd⟩, hproj⟩ := h
  have hin : ∀ t, e.tasks.size ≤ t → e.taskD t = {} := fun t ht => taskD_oob e t ht
  refine ⟨⟨?_, hleaf, hpar, hdeps, hlim, ?_, ?_, ?_⟩, ⟨hproj, ?_⟩, hfwd, ?_⟩
  · intro t p hp
    by_cases ht : t < e.tasks.size
    · have := (hall t ht).1.1.1.1.1
      rw [hp] at this; simpa using this
    · rw [hin t (by omega)] at hp; cases hp
  · intro t dp hdp
    by_cases ht : t < e.tasks.size
    · exact (hall t ht).1.1.1.1.2 dp hdp
    · rw [hin t (by omega)] at hdp; cases hdp
  · intro t dp hdp
    by_cases ht : t < e.tasks.size
    · exact (hall t ht).1.1.1.2 dp hdp
    · rw [hin t (by omega)] at hdp; cases hdp
  · intro t hc
    by_cases ht : t < e.tasks.size
    · have := (hall t ht).1.1.2
      rw [List.contains_eq_mem] at this
      simp at this
      exact this hc
    · rw [hin t (by omega)] at hc; cases hc
  · intro t
    by_cases ht : t < e.tasks.size
    · exact (hall t ht).2
    · rw [hin t (by omega)]
  · intro t ht
    exact (hall t ht).1.2

/-- **C09, the two runs** (`Proofs/Intruder`).  `ext e zd` is the forward project `e` with one more task `zd` appended — a
    top-level leaf without limits of its own, which may depend on existing tasks but on which nothing depends and which no
    container holds, whose priority is strictly lower than every other task's; resources, calendars, limits and horizon are those of `e` ("everything still
    fits the horizon").  Then in the schedule of `ext e zd` every other task has exactly the attributes — scheduled flag,
    start, end — it has in the schedule of `e`: whatever the added task's effort, resource, pinned start or calendar
    position, however the two compete for resources and limits. -/
theorem lowest_priority_intruder_harmless (e : Env) (zd : TaskD) (hi : Intr e zd) (tr : Tree e) (hfe : FwdEnv e)
    (hz : zd.forward = true) (hlow : ∀ t, t < e.tasks.size → (e.taskD t).prio > zd.prio) :
    ∀ t, t ≠ e.tasks.size → (runScenario (ext e zd)).tst t = (runScenario e).tst t :=
  runScenario_intruder e zd hi tr hfe hz hlow

/-- the same under the decidable checks -/
theorem lowest_priority_intruder_harmless_checked (e : Env) (zd : TaskD) (h : intrCheck e zd = true)
    (htr : treeCheck e = true) :
    ∀ t, t < e.tasks.size → (runScenario (ext e zd)).tst t = (runScenario e).tst t := by
  obtain ⟨hi, hfe, hz, hlow⟩ := intrCheck_sound e zd h
  intro t ht
  exact lowest_priority_intruder_harmless e zd hi (treeCheck_sound e htr) hfe hz hlow t (by omega)

/-- non-vacuity: two tasks on one resource, and an added 3 h task of priority 1 on the same resource -/
def base2 : RawProj :=
  { G := 3600, start := 1736121600, stop := 1737331200,
    res := [{}],
    tasks := [{ effort := some 4, alloc := some ([0], []) },
              { effort := some 2, alloc := some ([0], []), deps := [{ target := 0 }] }] }

def zlow : TaskD := { effort := 3, hasAlloc := true, alloc := [0], prio := 1, allDeps := [{ target := 0 }], deps := [{ target := 0 }] }

example : intrCheck (elaborate base2).env zlow = true := by decide +kernel
example : treeCheck (elaborate base2).env = true := by decide +kernel

end SP.C09
