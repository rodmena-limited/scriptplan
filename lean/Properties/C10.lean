import Model
import Proofs.SchedInv
import Proofs.WFCheck
import Proofs.Containers
/-!
C10 — containers summarise their children and book nothing.

Booking part (scheduler level): no container task and no resource group ever appears in a ledger.
Roll-up part, one step: when all children of a container are scheduled, the roll-up marks it
scheduled with start = earliest child start and end = latest child end.  For whole projects with a well-formed task
tree: a container is scheduled iff all its children are, and then carries those dates.
-/
namespace SP.C10
open SP

/-- only leaf tasks occupy resource time -/
theorem no_container_booked (e : Env) (wf : WF e) (r : Nat) (i : Int) (x : Nat × Rat)
    (hx : x ∈ ((runScenario e).led.get r i).usage) : (e.taskD x.1).leaf = true :=
  (runScenario_inv e wf).leafTask r i x hx

/-- only leaf resources are ever booked: a resource group has an empty ledger -/
theorem no_group_booked (e : Env) (wf : WF e) (r : Nat) (i : Int) (hgrp : (e.resD r).leaf = false) :
    ((runScenario e).led.get r i).usage = [] := by
  by_cases h : ((runScenario e).led.get r i).usage = []
  · exact h
  · have := ((runScenario_inv e wf).shift r i h).2
    rw [hgrp] at this; cases this

theorem minOpt_le (a : Option Int) (b : Int) : ∀ v, minOpt a b = some v → v ≤ b ∧ (∀ x, a = some x → v ≤ x) := by
  intro v h
  cases a with
  | none => simp [minOpt] at h; subst h; exact ⟨Int.le_refl _, by intro x hx; cases hx⟩
  | some x => simp [minOpt] at h; subst h; exact ⟨Int.min_le_right _ _, by intro y hy; cases hy; exact Int.min_le_left _ _⟩

/-- the folded minimum is a lower bound of every child's start … -/
theorem childMinStart_le (σ : St) (children : List Nat) (v : Int) (h : childMinStart σ children = some v) :
    ∀ c ∈ children, ∀ s, (σ.tst c).start = some s → v ≤ s := by
  unfold childMinStart at h
  have key : ∀ (l : List Nat) (init : Option Int) (v : Int),
      l.foldl (fun m c => match (σ.tst c).start with | some s => minOpt m s | none => m) init = some v →
      (∀ x, init = some x → v ≤ x) ∧ (∀ c ∈ l, ∀ s, (σ.tst c).start = some s → v ≤ s) := by
    intro l
    induction l with
    | nil => intro init v h; simp at h; exact ⟨by intro x hx; rw [h] at hx; cases hx; exact Int.le_refl _, by intro c hc; cases hc⟩
    | cons c cs ih =>
      intro init v h
      simp only [List.foldl_cons] at h
      cases hs : (σ.tst c).start with
      | none =>
        simp only [hs] at h
        obtain ⟨h1, h2⟩ := ih init v h
        refine ⟨h1, ?_⟩
        intro c' hc' s hs'
        rcases List.mem_cons.mp hc' with rfl | hm
        · rw [hs] at hs'; cases hs'
        · exact h2 c' hm s hs'
      | some s0 =>
        simp only [hs] at h
        obtain ⟨h1, h2⟩ := ih (minOpt init s0) v h
        cases hm : minOpt init s0 with
        | none => cases init <;> simp [minOpt] at hm
        | some mv =>
          have hv := h1 mv hm
          have hmm := minOpt_le init s0 mv hm
          refine ⟨fun x hx => Int.le_trans hv (hmm.2 x hx), ?_⟩
          intro c' hc' s hs'
          rcases List.mem_cons.mp hc' with rfl | hmem
          · rw [hs] at hs'; cases hs'; exact Int.le_trans hv hmm.1
          · exact h2 c' hmem s hs'
  exact (key children none v h).2

/-- roll-up step: all children scheduled ⇒ the container becomes scheduled, with the folded
    minimum / maximum as its dates (`rollupT`) -/
theorem rollup_marks (e : Env) (σ : St) (t : Nat)
    (hc : (e.taskD t).leaf = false) (hns : (σ.tst t).scheduled = false) (hne : (e.taskD t).children.isEmpty = false)
    (hall : (e.taskD t).children.all (fun c => (σ.tst c).scheduled) = true) :
    (rollupT e σ t).scheduled = true ∧
    (∀ v, childMinStart σ (e.taskD t).children = some v → (rollupT e σ t).start = some v) ∧
    (∀ v, childMaxEnd σ (e.taskD t).children = some v → (rollupT e σ t).stop = some v) :=
  rollupT_marks e σ t hc hns hne hall

/-- a container some child of which is unscheduled is left alone by the roll-up -/
theorem rollup_waits (e : Env) (σ : St) (t : Nat)
    (hall : (e.taskD t).children.all (fun c => (σ.tst c).scheduled) = false) :
    rollupT e σ t = σ.tst t :=
  rollupT_waits e σ t hall

/-- **C10, dates, for whole projects**: after scheduling any project whose task tree is well-formed (children are
    declared after their parents — `treeCheck`), every scheduled container has all of its children scheduled, its start
    is the minimum of its children's starts and its end the maximum of their ends (`childMinStart` / `childMaxEnd`
    fold exactly those; `childMinStart_le` and its twin show they are bounds) -/
theorem container_summarises_children (e : Env) (tr : Tree e) (c : Nat) (hnl : (e.taskD c).leaf = false)
    (hs : ((runScenario e).tst c).scheduled = true) :
    (∀ ch ∈ (e.taskD c).children, ((runScenario e).tst ch).scheduled = true) ∧
    (∀ s, childMinStart (runScenario e) (e.taskD c).children = some s → ((runScenario e).tst c).start = some s) ∧
    (∀ s, childMaxEnd (runScenario e) (e.taskD c).children = some s → ((runScenario e).tst c).stop = some s) :=
  (runScenario_containers e tr).1 c hnl hs

/-- … and a container with children is scheduled **iff** all of its children are -/
theorem container_scheduled_iff (e : Env) (tr : Tree e) (c : Nat) (hnl : (e.taskD c).leaf = false)
    (hne : (e.taskD c).children ≠ []) :
    ((runScenario e).tst c).scheduled = true ↔ ∀ ch ∈ (e.taskD c).children, ((runScenario e).tst ch).scheduled = true :=
  ⟨fun hs => ((runScenario_containers e tr).1 c hnl hs).1, fun hall => (runScenario_containers e tr).2 c hnl hne hall⟩

/-- the same for an elaborated project description, under the decidable check on the tree -/
theorem container_summarises_children_elab (p : RawProj) (h : treeCheck (elaborate p).env = true) (c : Nat)
    (hnl : ((elaborate p).env.taskD c).leaf = false)
    (hs : ((runScenario (elaborate p).env).tst c).scheduled = true) :
    ContOK (elaborate p).env (runScenario (elaborate p).env) c :=
  container_summarises_children _ (treeCheck_sound _ h) c hnl hs

/-- non-vacuity: a container with two leaves below a container — children are declared after their parents -/
def nested : RawProj :=
  { G := 3600, start := 1736121600, stop := 1737331200,
    res := [{}],
    tasks := [{}, { parent := some 0 }, { parent := some 1, effort := some 1, alloc := some ([0], []) },
              { parent := some 1, effort := some 2, alloc := some ([0], []) }] }

example : treeCheck (elaborate nested).env = true := by decide +kernel
example : ((elaborate nested).env.taskD 1).children = [2, 3] ∧ ((elaborate nested).env.taskD 1).leaf = false := by
  decide +kernel

end SP.C10
