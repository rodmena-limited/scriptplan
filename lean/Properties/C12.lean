import Model
import Proofs.Hidden
/-!
C12 — same input, same output: independent of history and process state.

`Model/Hidden.lean` lists every piece of process-global state of the package and, for every API entry
point, the order of its reads and writes.  A *history* is any list of ops (complete runs, parses without
scheduling, runs interrupted by an exception at any point, `schedule()` / report generation on projects
the caller kept).  `out h t` is the list of every value the final run of `t` reads from hidden state (or
from attribute flags computed from it): the run's schedule and reports are a function of the text and of
that list.

The theorems are about the model; that the model's inventory of hidden state and its read/write tables
are those of the code is what `./check C12` tests on every run (static inventory stream, dynamic
`hidden` stream with instrumented mode accesses, digests against fresh processes).
-/
namespace SP.C12
open SP.Hidden

/-- **History independence.**  Whatever was parsed, scheduled, reported or aborted before in the same
    process — a history of any length — the final run reads the same values as in a fresh process. -/
theorem C12_history (h : List Op) (t : TextAbs) : out h t = out [] t := by
  have k := runHist_follows World.init h
  exact obsRun_congr _ _ t k.tz k.cfg

/-- the same for any function of the observations (a schedule, a report, a digest) -/
theorem C12_history_any {α : Type} (render : TextAbs → List Obs → α) (h : List Op) (t : TextAbs) :
    render t (out h t) = render t (out [] t) := by rw [C12_history]

/-- `AttributeBase._mode`: every run writes it (`Project.__init__` ⇒ 0) before anything reads it, so the
    value left behind by earlier ops — any value, reachable or not — is never seen. -/
theorem mode_written_before_read (w : World) (m : Nat) (t : TextAbs) :
    obsRun { w with h := { w.h with mode := m } } t = obsRun w t :=
  obsRun_congr _ _ t rfl rfl

/-- `TjTime._tz` is read (`Project.__init__`) but no op writes it. -/
theorem tz_never_written (h : List Op) : (runHist World.init h).h.tz = "UTC" :=
  (runHist_follows World.init h).tz

/-- the message handler's configuration is read by every warning but no op writes it. -/
theorem mhcfg_never_written (h : List Op) : (runHist World.init h).h.cfg = {} :=
  (runHist_follows World.init h).cfg

/-- the data cache never holds an entry, and the error counter never moves. -/
theorem cache_never_filled (h : List Op) :
    (runHist World.init h).h.cacheLen = 0 ∧ (runHist World.init h).h.errors = 0 :=
  ⟨(runHist_follows World.init h).cacheLen, (runHist_follows World.init h).errors⟩

/-- the message log is append-only … -/
theorem msgs_append_only (w : World) (o : Op) : ∃ l, (step w o).1.h.msgs = w.h.msgs ++ l :=
  (step_follows w o).msgs

/-- … and, like the cache singleton and the counters, it is never read: a run started with any log,
    any counters, any cache state reads the same values. -/
theorem log_cache_counters_never_read (w : World) (t : TextAbs) (msgs : List String) (errors cacheLen : Nat)
    (cacheInst mhInst : Bool) :
    obsRun { w with h := { w.h with msgs := msgs, errors := errors, cacheLen := cacheLen,
                                    cacheInst := cacheInst, mhInst := mhInst } } t = obsRun w t :=
  obsRun_congr _ _ t rfl rfl

/-- what a run CAN depend on: the two components that are read before being written.  (They are
    constant over all histories by `tz_never_written` / `mhcfg_never_written`.) -/
theorem run_depends_only_on_tz_and_cfg (w1 w2 : World) (t : TextAbs)
    (htz : w1.h.tz = w2.h.tz) (hcfg : w1.h.cfg = w2.h.cfg) : obsRun w1 t = obsRun w2 t :=
  obsRun_congr w1 w2 t htz hcfg

theorem lookup_put (w : World) (s : Nat) (p : ProjSt) (h : HState) :
    (w.put (some s) p h).slots.lookup s = some p := by
  simp [World.put]

theorem put_put (w : World) (s : Nat) (p p' : ProjSt) (h h' : HState) :
    (w.put (some s) p h).put (some s) p' h' = w.put (some s) p' h' := by
  simp [World.put, List.filter_filter]

/-- **Idempotence.**  Calling `schedule()` again on a project (scheduled completely, partly, not at all,
    with or without failed tasks — any kept project in any world) changes neither the hidden state nor
    the project, and reads nothing. -/
theorem C12_idempotent (w : World) (s : Nat) :
    (step (step w (.schedule s none)).1 (.schedule s none)).1 = (step w (.schedule s none)).1 ∧
    (step (step w (.schedule s none)).1 (.schedule s none)).2.1 = [] := by
  cases hl : w.slots.lookup s with
  | none => simp [step, hl]
  | some p =>
    have hi := schedApply_idem w.h p
    simp only [step, hl, lookup_put, put_h, put_put]
    refine ⟨?_, hi.2⟩
    rw [hi.1]

/-- any number of further calls -/
def schedTimes (w : World) (s : Nat) : Nat → World
  | 0 => w
  | n + 1 => (step (schedTimes w s n) (.schedule s none)).1

theorem C12_idempotent_n (w : World) (s : Nat) (n : Nat) : schedTimes w s (n + 1) = schedTimes w s 1 := by
  induction n with
  | zero => rfl
  | succ k ih =>
    show (step (schedTimes w s (k + 1)) (.schedule s none)).1 = schedTimes w s 1
    rw [ih]
    exact (C12_idempotent w s).1

/-- a run followed by `schedule()` on the kept project: the scenario passes are not started again -/
theorem C12_run_then_schedule (w : World) (t : TextAbs) (s : Nat) (hl : t.lexOk = true)
    (ht : t.hasTasks = true) (hs : t.scens ≠ []) :
    (step (step w (.run t (some s))).1 (.schedule s none)).1 = (step w (.run t (some s))).1 := by
  obtain ⟨s0, ss, hss⟩ : ∃ a l, t.scens = a :: l := by
    cases h : t.scens with
    | nil => exact absurd h hs
    | cons a l => exact ⟨a, l, rfl⟩
  simp only [step, hl, if_true, lookup_put, put_h, put_put]
  rw [schedApply_finished]
  simp only [ht, hss, if_true, loopDone_all]
  exact done_replicate ss.length

/-- A scheduled one-scenario project: the pinned `Project.schedule()` runs prepare/schedule/finish of the
    scenario a second time (mode 1, 2 again; the warning is emitted again; the pass counter moves), the
    repaired one does nothing.  On the real code the second pass moved a failed task's start date
    (findings/F21.json). -/
theorem F21_pinned_reenters :
    let p : ProjSt := { t := { scens := [{ warns := ["unscheduled_tasks"] }], props := 2 }, done := [true], runs := [1] }
    schedRunsPinned p = [2] ∧ schedRuns p none = [1] ∧
    schedProgPinned p ≠ [] ∧ schedProg p none = [] ∧
    Act.warn "unscheduled_tasks" ∈ schedProgPinned p := by
  decide +kernel

/-- a text with two root tasks, a resource, inherited attributes, two scenarios (one with a failing task) and reports -/
def sampleText : TextAbs :=
  { build := [.set "effort", .rootInit, .set "allocate", .resInit, .rootInit, .set "start",
              .inheritRead "start", .inheritRead "allocate", .inheritRead "priority"],
    props := 3, hasTasks := true,
    scens := [{}, { warns := ["unscheduled_tasks"] }], reportSets := 4 }

def otherText : TextAbs :=
  { build := [.set "priority", .rootInit, .resInit, .inheritRead "priority"], props := 2, scens := [{}] }

/-- a history with every kind of op: a complete run that is kept, a second `schedule()` on it, its reports,
    a parse without scheduling, runs aborted in `prepareScenario` (mode left at 1) / in `scheduleScenario`
    (mode left at 2) / inside the builder, a syntax error, and a `schedule()` interrupted in its second scenario -/
def sampleHistory : List Op :=
  [.run otherText (some 0), .schedule 0 none, .report 0, .parseOnly sampleText (some 1),
   .failRun sampleText (.scen 0 .prepare), .failRun otherText (.scen 0 .sched), .failRun sampleText (.build 2),
   .failRun { otherText with lexOk := false } .lex, .schedule 1 (some (1, .sched)), .schedule 1 none]

/-- the history really moves the hidden state … -/
example : (runHist World.init sampleHistory).h =
    { mode := 2, cacheInst := true, mhInst := true, msgs := ["unscheduled_tasks"] } := by decide +kernel

example : (runHist World.init (sampleHistory.take 5)).h.mode = 1 := by decide +kernel

/-- … the final run reads several values (time zone twice, the mode saved by two root tasks, three flags,
    the warning's view of the configuration) … -/
example : out [] sampleText =
    [.tz "UTC", .tz "UTC", .savedMode 0, .savedMode 0, .flag "start" { provided := true },
     .flag "allocate" { provided := true }, .flag "priority" {}, .warnCfg {}] := by decide +kernel

/-- … and they are those of a fresh process (instance of `C12_history`). -/
example : out sampleHistory sampleText = out [] sampleText := C12_history _ _

/-- The theorem has content: a run that did NOT write the mode first would see the history.  The same
    builder accesses without the leading `setMode 0` of `Project.__init__`, started after an op that left
    mode 2, read different flags. -/
example :
    (execProg ⟨{ mode := 2 }, []⟩ (buildProg sampleText)).2.1 ≠ (execProg ⟨{ mode := 0 }, []⟩ (buildProg sampleText)).2.1 := by
  decide +kernel

/-- the hypotheses of `C12_run_then_schedule` are met by the sample text -/
example : sampleText.lexOk = true ∧ sampleText.hasTasks = true ∧ sampleText.scens ≠ [] := by decide +kernel

/-- idempotence, evaluated on the kept two-scenario project of the sample history (interrupted, completed, repeated) -/
example :
    let w := runHist World.init sampleHistory
    (step w (.schedule 1 none)).1 = w ∧ (w.slots.lookup 1).map (·.runs) = some [1, 2] ∧
    (w.slots.lookup 1).map (·.done) = some [true, true] := by
  decide +kernel

end SP.C12
