import Model
import Proofs.Order
import Proofs.Walk
import Proofs.Visits
import Proofs.EarliestFit
import Proofs.TeamFit
import Proofs.AltFit
import Proofs.EffortGlobal
import Proofs.WFCheck
/-!
C07 — ASAP schedules equal the priority-ordered earliest-fit schedule.

The two halves of the list-scheduling rule, as theorems about the model:
 * order: tasks are considered in (priority descending, declaration order) and the first one whose
   predecessors are all scheduled is placed next;
 * earliest fit: the placed task starts at its dependency bound's slot and, slot by slot, books exactly
   where its resource is available (on shift, time left, within limits).
The equality with an independent reference implementation of the rule on the core dialect (and
exhaustively on a small bounded universe) is the correspondence part of the check.
-/
namespace SP.C07
open SP

theorem order_by_priority (e : Env) (l : List Nat) :
    (l.mergeSort (prioLe e)).Pairwise (fun a b => prioLe e a b = true) := todo_sorted e l

/-- ties are broken by declaration order -/
theorem tie_by_declaration (e : Env) (a b : Nat) (hp : (e.taskD a).prio = (e.taskD b).prio) :
    prioLe e a b = decide (a ≤ b) := by
  unfold prioLe
  simp [hp]

theorem next_is_first_ready (e : Env) (σ : St) (tasks : List Nat) (t : Nat)
    (h : tasks.find? (fun t => ready e σ t) = some t) :
    ready e σ t = true ∧ ∃ pre post, tasks = pre ++ t :: post ∧ ∀ x ∈ pre, ready e σ x = false :=
  picks_first_ready e σ tasks t h

/-- ready (forward) = all predecessors — own, inherited, via precedes — are scheduled -/
theorem ready_iff (e : Env) (σ : St) (t : Nat) (hf : (σ.tst t).forward = true) :
    ready e σ t = true ↔ ∀ dp ∈ (e.taskD t).allDeps, (σ.tst dp.target).scheduled = true := by
  unfold ready asapReady
  simp [hf, List.all_eq_true]

/-- earliest fit, start: the walk starts in the slot of the dependency bound -/
theorem starts_at_bound (e : Env) (wf : WF e) (x : Int) (hx : e.start ≤ x) :
    ((e.time (cursorOf e x).1 : Int) : Rat) + (cursorOf e x).2 = (x : Rat) := cursorOf_exact e wf x hx

/-- earliest fit, step: one slot at a time, none skipped -/
theorem one_slot_at_a_time (w w1 : Walk) : (advance true w w1).cur = w1.cur + 1 := rfl

/-- earliest fit, booking rule: at a visited slot the resource is booked iff it is available and the
    task's limits allow it -/
theorem books_iff_feasible (e : Env) (σ : St) (t : Nat) (w : Walk) (r : Nat) :
    (bookResource e σ t w r) =
      if available e (reserveStep σ w r) r w.cur && taskLimitsOk e (reserveStep σ w r) t w.cur r
      then bookSlot e (reserveStep σ w r) r w.cur t else (reserveStep σ w r, 0) := rfl

/-- in the core dialect (whole-slot efforts) a booking takes the whole free slot -/
theorem whole_slot (G : Int) (hG : (1 : Rat) / 1000000 ≤ (G : Rat)) : availSecs G {} = (G : Rat) := by
  unfold availSecs
  simp only [Slot.used]
  grind

/-- **the second clause of C07 for one task** (`TaskScenario.schedule()`, forward mode, single selected resource `r`, no
    start of its own), started in any state `σ` that satisfies the scheduler invariant and holds nothing of the task on `r`:
    if it succeeds then
    (1) the walk starts in the slot of the task's dependency bound (`boundOf`: the latest of the project / inherited start
        and every predecessor's (start | end) + gap);
    (2) it visits the slots after it one by one, none skipped;
    (3) a visited slot is booked for the task **iff** the resource was available there and the limits allowed it at that
        moment — so the task takes exactly the earliest eligible slots at or after its bound;
    (4) the seconds it holds, weighted by the efficiency, add up to exactly its effort (so it stops as soon as it can);
    (5) its reported start is at or after the bound. -/
theorem task_takes_earliest_slots (e : Env) (wf : WF e) (σ : St) (t r : Nat)
    (hinv : Inv e σ) (hel : Elig e t r) (hnp : (e.taskD t).startProvided = false)
    (hb : t < σ.ts.size) (hf : (σ.tst t).forward = true) (hnd : (σ.tst t).done = false)
    (hclean : ∀ i, usageOf (σ.led.get r i).usage t = none) (hok : (scheduleTask e σ t).2 = true) :
    let visits := walkVisits e t (e.size.toNat + 3) (σ.setT t (σ.tst t))
      { cur := (initCursor e σ t).1, offset := (initCursor e σ t).2 }
    (initCursor e σ t).1 = (cursorOf e (boundOf e σ t)).1 ∧
    (∀ k (hk : k < visits.length), (visits[k]).2.cur = (initCursor e σ t).1 + k) ∧
    (∀ p ∈ visits, (usageOf ((scheduleTask e σ t).1.led.get r p.2.cur).usage t ≠ none ↔ gate e p.1 t p.2 r = true)) ∧
    (∃ vis : List Int, vis.Nodup ∧ (∀ i, i ∉ vis → usageOf ((scheduleTask e σ t).1.led.get r i).usage t = none) ∧
      sumOver (scheduleTask e σ t).1.led r t vis / 3600 * (e.resD r).eff = (e.taskD t).effort) ∧
    (∃ v, ((scheduleTask e σ t).1.tst t).start = some v ∧ boundOf e σ t ≤ v) := by
  intro visits
  refine ⟨by rw [initCursor_forward e σ t hf hnp], ?_, ?_, ?_, ?_⟩
  · intro k hk
    exact walkVisits_consecutive e t _ _ _ k hk
  · exact scheduleTask_no_idle e wf σ t r hinv hel hf hnd hclean hok
  · exact scheduleTask_exact e wf σ t r hinv hel.leaf hel.alloc hel.nomile hel.effort hel.sel hnd hclean hok
  · exact scheduleTask_start_ge e wf σ t hb hf hnp hel.alloc hel.nomile hel.effort hnd hok

/-- **C07, the earliest-fit clause, for whole projects** (`Proofs/EarliestFit`): after scheduling ANY well-formed project there
    is a linear order of the tasks — the order in which the loop placed them, latest first — such that every forward effort
    task `t` reported as scheduled, without a start of its own, with the single selected leaf resource `r`, occurs in it
    (`order = post ++ t :: pre`, `pre` being the tasks placed before `t`), and between the slot of `t`'s dependency bound
    (from the FINAL dates of its predecessors) and any slot in which `t` is booked, every slot in which `r` is on shift and
    not on leave carries `t` itself, or a task placed BEFORE `t`, or is refused by a limit of the resource / a group / the
    task / a container (counter at the limit in the final state).  So `t` took the earliest slots at or after its bound in
    which its resource is working, unbooked by earlier tasks and within limits — no such slot is empty, and none went to a
    task placed later: the schedule is the list schedule of that order.  (Which order it is — priority, ties in declaration order, first ready — is the step-level
    `order_by_priority`, `next_is_first_ready`, and for the lowest priority the two-run theorem of C09.) -/
theorem earliest_fit_in_placement_order (e : Env) (wf : WF e) (tr : Tree e) :
    ∃ order : List Nat, ∀ t r, EligU e t r → ((runScenario e).tst t).scheduled = true → ((runScenario e).tst t).forward = true →
      ∃ post pre, order = post ++ t :: pre ∧
        ∀ L, usageOf ((runScenario e).led.get r L).usage t ≠ none →
          ∀ i, boundSlot e (runScenario e) t ≤ i → i ≤ L → e.onShift r i = true → e.leaveMark r i = false →
            usageOf ((runScenario e).led.get r i).usage t ≠ none ∨
            (∃ t' ∈ pre, usageOf ((runScenario e).led.get r i).usage t' ≠ none) ∨
            Exhausted e (runScenario e) t r i := by
  obtain ⟨order, h⟩ := runScenario_doneFit e wf tr
  exact ⟨order, fun t r hel hs hf =>
    h t r hel (runScenario_scheduled_done e t ⟨hel.el.leaf, hel.el.effort, hel.el.nomile⟩ hs) hf⟩

/-- the same for the environment elaborated from a project description, under the decidable checks -/
theorem earliest_fit_in_placement_order_elab (p : RawProj) (h : wfCheck (elaborate p).env = true)
    (htr : treeCheck (elaborate p).env = true) :
    ∃ order : List Nat, ∀ t r, EligU (elaborate p).env t r →
      ((runScenario (elaborate p).env).tst t).scheduled = true → ((runScenario (elaborate p).env).tst t).forward = true →
      ∃ post pre, order = post ++ t :: pre ∧ FitAt (elaborate p).env (runScenario (elaborate p).env) t r pre := by
  obtain ⟨order, h1⟩ := runScenario_doneFit _ (wfCheck_sound _ h) (treeCheck_sound _ htr)
  exact ⟨order, fun t r hel hs hf =>
    h1 t r hel (runScenario_scheduled_done _ t ⟨hel.el.leaf, hel.el.effort, hel.el.nomile⟩ hs) hf⟩

/-- **C07 for whole projects: a list schedule in priority order** (`Proofs/EarliestFit`, `runScenario_placement`).  After
    scheduling ANY well-formed project there are the order of placement `order` (latest first) and the tasks `rest` never
    placed, such that the earliest-fit clause holds for `order` (as in `earliest_fit_in_placement_order`) AND the order is the
    priority order among the tasks that could be placed: whenever `t0` was placed and `t` was placed later (`t ∈ post`) or
    never (`t ∈ rest`), then `t0` ranks at or before `t` (priority descending, ties in declaration order), or `t` is not in
    forward mode, or one of `t`'s predecessors is a container, or had not yet been placed when `t0` was picked, or had been
    placed and could not be scheduled.  A task is overtaken by a lower-ranked one only while it waits for a predecessor. -/
theorem list_schedule_in_priority_order (e : Env) (wf : WF e) (tr : Tree e) :
    ∃ order rest : List Nat,
      DoneFit e (runScenario e) order ∧
      (∀ post pre t0, order = post ++ t0 :: pre → ∀ t, (t ∈ rest ∨ t ∈ post) →
        prioLe e t0 t = true ∨ ((runScenario e).tst t).forward = false ∨
        ∃ dp ∈ (e.taskD t).allDeps, (e.taskD dp.target).leaf = false ∨ dp.target ∉ pre ∨
          (dp.target ∈ pre ∧ ((runScenario e).tst dp.target).scheduled = false)) := by
  obtain ⟨order, rest, h1, h2, _, _⟩ := runScenario_placement e wf tr
  exact ⟨order, rest, h1, h2⟩

/-- **C07 for whole projects, teams** (`Proofs/TeamFit`, `Proofs/TeamLimits`): with the SAME placement order as
    `list_schedule_in_priority_order`, every forward team task reported as scheduled — several pairwise different leaf
    resources, no start of its own; the members, their groups, the task and its containers may all carry limits — occurs in the
    order, and between the slot of its dependency bound and any slot in which it is booked, every slot in which ALL its members
    are on shift and not on leave carries the task on every member, or some member carries there a task placed BEFORE it, or
    some limit of a member or of the task has no room left in the period of that slot for the whole team (`TeamTight`: its
    counter plus the other `|team| − 1` members reaches the limit): the team takes the earliest slots in which all its resources
    are working, unbooked and within their limits. -/
theorem team_earliest_fit (e : Env) (wf : WF e) (tr : Tree e) :
    ∃ order rest : List Nat, Placement e (runScenario e) order rest ∧
      ∀ t sel, TeamU e t sel → ((runScenario e).tst t).scheduled = true → ((runScenario e).tst t).forward = true →
        ∃ post pre, order = post ++ t :: pre ∧
          ∀ L m0, m0 ∈ sel → usageOf ((runScenario e).led.get m0 L).usage t ≠ none →
            ∀ i, boundSlot e (runScenario e) t ≤ i → i ≤ L → (∀ m ∈ sel, e.onShift m i = true ∧ e.leaveMark m i = false) →
              (∀ m ∈ sel, usageOf ((runScenario e).led.get m i).usage t ≠ none) ∨
              (∃ m ∈ sel, ∃ t' ∈ pre, usageOf ((runScenario e).led.get m i).usage t' ≠ none) ∨
              TeamTight e (runScenario e) t sel i := by
  obtain ⟨order, rest, hp, hT⟩ := runScenario_placementT e wf tr
  exact ⟨order, rest, hp, fun t sel hel hs hf =>
    hT t sel hel (runScenario_scheduled_done e t ⟨hel.el.leaf, hel.el.effort, hel.el.nomile⟩ hs) hf⟩

/-- what `TeamTight` says, spelled out: a member `m` of the team and a limit — one of `m`'s (own or inherited from a group), or one
    of the task's (own or of a container) that applies to `m` — whose counter for the period of slot `i`, plus one booking for
    each OTHER member of the team, reaches the limit's value -/
theorem teamTight_iff (e : Env) (σ : St) (t : Nat) (sel : List Nat) (i : Int) :
    TeamTight e σ t sel i ↔
      ∃ m ∈ sel,
        (∃ lid ∈ resLimitIds e m, ¬ ((e.limitD lid).res.isSome && (e.limitD lid).res != none) = true ∧
          0 ≤ e.period (e.limitD lid) i ∧
          (e.limitD lid).value ≤ σ.cnt.get lid (e.period (e.limitD lid) i) + ((sel.length : Int) - 1)) ∨
        (∃ lid ∈ taskLimitIds e t, ¬ ((e.limitD lid).res.isSome && (e.limitD lid).res != some m) = true ∧
          0 ≤ e.period (e.limitD lid) i ∧
          (e.limitD lid).value ≤ σ.cnt.get lid (e.period (e.limitD lid) i) + ((sel.length : Int) - 1)) := Iff.rfl

/-- **unlimited teams** (corollary): when neither the members (nor their groups) nor the task (nor its containers) carry limits,
    the third case cannot occur -/
theorem team_earliest_fit_unlimited (e : Env) (wf : WF e) (tr : Tree e) :
    ∃ order rest : List Nat, Placement e (runScenario e) order rest ∧
      ∀ t sel, TeamU e t sel → (∀ m ∈ sel, resLimitIds e m = []) → taskLimitIds e t = [] →
        ((runScenario e).tst t).scheduled = true → ((runScenario e).tst t).forward = true →
        ∃ post pre, order = post ++ t :: pre ∧
          ∀ L m0, m0 ∈ sel → usageOf ((runScenario e).led.get m0 L).usage t ≠ none →
            ∀ i, boundSlot e (runScenario e) t ≤ i → i ≤ L → (∀ m ∈ sel, e.onShift m i = true ∧ e.leaveMark m i = false) →
              (∀ m ∈ sel, usageOf ((runScenario e).led.get m i).usage t ≠ none) ∨
              ∃ m ∈ sel, ∃ t' ∈ pre, usageOf ((runScenario e).led.get m i).usage t' ≠ none := by
  obtain ⟨order, rest, hp, hT⟩ := team_earliest_fit e wf tr
  refine ⟨order, rest, hp, fun t sel hel hrl htl hs hf => ?_⟩
  obtain ⟨post, pre, hsplit, hfit⟩ := hT t sel hel hs hf
  refine ⟨post, pre, hsplit, fun L m0 hm0 hL i hb hi hall => ?_⟩
  rcases hfit L m0 hm0 hL i hb hi hall with h1 | h1 | h1
  · exact Or.inl h1
  · exact Or.inr h1
  · exact (teamTight_unlimited hrl htl h1).elim

/-- every entry of the final ledger belongs to a task the loop placed (ghost order of `earliest_fit_in_placement_order`): at the
    level of one round, the ledger after scheduling `t0` holds entries of `t0` and of the tasks it held before, nothing else -/
theorem round_adds_only_own_entries (e : Env) (wf : WF e) (σ : St) (t0 : Nat) (S : List Nat) (hinv : Inv e σ)
    (hlf : (e.taskD t0).leaf = true) (h : Owned S σ) : Owned (t0 :: S) (scheduleTask e σ t0).1 :=
  closed_scheduleTask (owned_closed e (t0 :: S)) wf σ t0 hinv hlf List.mem_cons_self
    (h.mono (fun x hx => List.mem_cons_of_mem _ hx))

/-- **C07 for whole projects, tasks with an alternative** (`Proofs/AltFit`): with the SAME placement order as
    `list_schedule_in_priority_order` and `team_earliest_fit` (one order for all three statements), every forward effort task
    reported as scheduled with one primary and one alternative resource (both leaves), without a start of its own, occurs in the
    order, is booked on ONE of its two candidates — the one `_selectBestResources` chose at its first slot — and on that one,
    between the slot of its dependency bound and any slot in which it is booked, every slot in which the resource is on shift
    and not on leave carries the task itself, or a task placed BEFORE it, or is refused by a limit. -/
theorem alternative_earliest_fit (e : Env) (wf : WF e) (tr : Tree e) :
    ∃ order rest : List Nat, Placement e (runScenario e) order rest ∧ DoneFitT e (runScenario e) order ∧
      ∀ t r1 r2, EligAltU e t r1 r2 → ((runScenario e).tst t).scheduled = true → ((runScenario e).tst t).forward = true →
        ∃ post pre, order = post ++ t :: pre ∧
          ∃ r, (r = r1 ∨ r = r2) ∧ (∃ L, usageOf ((runScenario e).led.get r L).usage t ≠ none) ∧
            ∀ L, usageOf ((runScenario e).led.get r L).usage t ≠ none →
              ∀ i, boundSlot e (runScenario e) t ≤ i → i ≤ L → e.onShift r i = true → e.leaveMark r i = false →
                usageOf ((runScenario e).led.get r i).usage t ≠ none ∨
                (∃ t' ∈ pre, usageOf ((runScenario e).led.get r i).usage t' ≠ none) ∨ Exhausted e (runScenario e) t r i := by
  obtain ⟨order, rest, hp, hT, hA⟩ := runScenario_placementA e wf tr
  exact ⟨order, rest, hp, hT, fun t r1 r2 hel hs hf =>
    hA t r1 r2 hel (runScenario_scheduled_done e t ⟨hel.el.leaf, hel.el.effort, hel.el.nomile⟩ hs) hf⟩

end SP.C07
