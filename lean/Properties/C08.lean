import Model
import Proofs.Walk
import Proofs.Visits
import Proofs.NoIdleGlobal
import Proofs.NoIdleBack
import Proofs.NoIdleAlt
import Proofs.NoIdleBackAlt
import Proofs.TeamBack
import Proofs.AltFit
import Proofs.WFCheck
/-!
C08 — no eligible working time is left idle.

The walk visits every slot index from the cursor on, one by one, in the direction of the mode, and at
every visited slot a single-resource task books exactly when the resource is available there and the
task's limits allow it; a booking records the task in that slot.  Hence between the bound and the
finishing slot no slot in which the resource was available to the task is left without the task.
-/
namespace SP.C08
open SP

/-- the cursor is not moved inside a slot … -/
theorem slot_keeps_cursor (e : Env) (σ : St) (t : Nat) (w : Walk) : (scheduleSlot e σ t w).2.1.cur = w.cur :=
  scheduleSlot_cur e σ t w

/-- … and moves by exactly one slot between two slots: none is skipped -/
theorem next_slot (fwd : Bool) (w w1 : Walk) : (advance fwd w w1).cur = w1.cur + (if fwd then 1 else -1) :=
  advance_cur fwd w w1

/-- at a visited slot: available and within limits ⇒ booked (the resource's ledger slot gets the task) -/
theorem available_is_used (e : Env) (σ : St) (t : Nat) (w : Walk) (r : Nat)
    (ha : available e (reserveStep σ w r) r w.cur = true) (hl : taskLimitsOk e (reserveStep σ w r) t w.cur r = true) :
    ∃ a, (t, a) ∈ ((bookResource e σ t w r).1.led.get r w.cur).usage := by
  rw [bookResource_eq]
  simp only [ha, hl, Bool.and_self, if_true]
  refine ⟨availSecs e.G ((reserveStep σ w r).led.get r w.cur), ?_⟩
  rw [bookSlot_entry]
  simp

/-- … and conversely nothing is booked where the resource is not available to the task -/
theorem unavailable_not_booked (e : Env) (σ : St) (t : Nat) (w : Walk) (r : Nat)
    (h : (available e (reserveStep σ w r) r w.cur && taskLimitsOk e (reserveStep σ w r) t w.cur r) = false) :
    (bookResource e σ t w r) = (reserveStep σ w r, 0) := by
  rw [bookResource_eq]; simp [h]

/-- availability is exactly: leaf resource, on shift, time left in the slot, not a fully free slot that is
    marked (leave bits / other task), every resource-side limit below its value -/
theorem available_iff (e : Env) (σ : St) (r : Nat) (i : Int) :
    available e σ r i = true ↔
      (e.resD r).leaf = true ∧ e.onShift r i = true ∧ availSecs e.G (σ.led.get r i) > 0 ∧
      ¬ ((σ.marks.get r (e.norm i) = true ∨ e.leaveMark r (e.norm i) = true) ∧ availSecs e.G (σ.led.get r i) ≥ (e.G : Rat)) ∧
      (∀ lid ∈ resLimitIds e r, limitOk e σ lid i none = true) := by
  unfold available
  simp only [Bool.and_eq_true, Bool.not_eq_true', List.all_eq_true, decide_eq_true_eq, Bool.and_eq_false_imp,
    Bool.or_eq_true, decide_eq_false_iff_not]
  constructor
  · rintro ⟨⟨⟨⟨h1, h2⟩, h3⟩, h4⟩, h5⟩
    exact ⟨h1, h2, h3, fun hc => h4 hc.1 hc.2, h5⟩
  · rintro ⟨h1, h2, h3, h4, h5⟩
    exact ⟨⟨⟨⟨h1, h2⟩, h3⟩, fun hm hg => h4 ⟨hm, hg⟩⟩, h5⟩

/-- the backward cursor starts at the last slot strictly before the deadline in which a candidate
    resource is on shift (or at slot 0): `backToWork` only skips slots where `p` is false -/
theorem backToWork_skips_only_off (e : Env) (p : Int → Bool) (fuel : Nat) (c0 : Int) :
    backToWork e p fuel c0 ≤ c0 ∧ ∀ j, backToWork e p fuel c0 < j → j ≤ c0 → p j = false :=
  backToWork_skips e p fuel c0

/-- **none skipped**: the k-th slot a forward walk visits is `cursor + k` -/
theorem visits_are_consecutive (e : Env) (t : Nat) (fuel : Nat) (σ : St) (w : Walk) (k : Nat)
    (hk : k < (walkVisits e t fuel σ w).length) : ((walkVisits e t fuel σ w)[k]).2.cur = w.cur + k :=
  walkVisits_consecutive e t fuel σ w k hk

/-- **C08 for one task, end to end** (`TaskScenario.schedule()` in forward mode): started in any state satisfying the
    scheduler invariant, a successful run of an effort task with the single selected resource `r` visits the slots
    from the slot of its dependency bound up to its finishing slot one by one, and in the resulting ledger a visited
    slot carries a booking of the task iff — at the moment it was visited — the resource was available (leaf, on
    shift, time left in the slot, not a marked free slot, resource and group limits not exhausted) and the task's
    limits allowed the booking.  No eligible slot between bound and end is left idle. -/
theorem task_no_idle (e : Env) (wf : WF e) (σ : St) (t r : Nat)
    (hinv : Inv e σ) (hel : Elig e t r) (hb : t < σ.ts.size) (hf : (σ.tst t).forward = true)
    (hnd : (σ.tst t).done = false) (hclean : ∀ i, usageOf (σ.led.get r i).usage t = none)
    (hok : (scheduleTask e σ t).2 = true) :
    ∀ p ∈ walkVisits e t (e.size.toNat + 3) (σ.setT t (σ.tst t))
        { cur := (initCursor e σ t).1, offset := (initCursor e σ t).2 },
      (usageOf ((scheduleTask e σ t).1.led.get r p.2.cur).usage t ≠ none ↔
        (available e (reserveStep p.1 p.2 r) r p.2.cur && taskLimitsOk e (reserveStep p.1 p.2 r) t p.2.cur r) = true) :=
  scheduleTask_no_idle e wf σ t r hinv hel hf hnd hclean hok

/-- an effort task allocated to the single leaf resource `r` (no alternative), no start of its own -/
theorem eligU_of_single (e : Env) (t r : Nat) (hlf : (e.taskD t).leaf = true) (ha : (e.taskD t).hasAlloc = true)
    (hm : (e.taskD t).milestone = false) (hpos : 0 < (e.taskD t).effort)
    (hal : (e.taskD t).alloc = [r]) (halt : (e.taskD t).alt = []) (hns : (e.taskD t).startProvided = false)
    (hrleaf : (e.resD r).leaf = true) : EligU e t r :=
  ⟨⟨hlf, ha, hm, hpos, fun σ c => by rw [hal, halt]; exact selectBest_single e σ r _ c⟩, hns, hrleaf⟩

/-- **C08 for whole projects (forward mode), any single resource** (`Proofs/NoIdle`, `Proofs/NoIdleGlobal`, `Proofs/Solid`):
    after scheduling ANY well-formed project, for every forward effort task `t` reported as scheduled, without a start of its
    own, with the single selected leaf resource `r`: every predecessor is scheduled, and between the slot of the dependency
    bound — the latest of the project start, an inherited start and every predecessor's (start | end) + gap in the FINAL
    schedule — and any slot `L` in which `t` is booked (in particular the last one, which holds its end), every slot in which
    `r` is on shift and not on leave carries a booking in the final ledger, or a limit of the resource / a group / the task /
    a container refuses that slot in the final state (the only legitimate reason to leave working time unused). -/
theorem no_idle_final_limits (e : Env) (wf : WF e) (tr : Tree e) (t r : Nat) (hel : EligU e t r)
    (hs : ((runScenario e).tst t).scheduled = true) (hf : ((runScenario e).tst t).forward = true) :
    (∀ dp ∈ (e.taskD t).allDeps, ((runScenario e).tst dp.target).scheduled = true) ∧
    ∀ L, usageOf ((runScenario e).led.get r L).usage t ≠ none →
      ∀ i, boundSlot e (runScenario e) t ≤ i → i ≤ L → e.onShift r i = true → e.leaveMark r i = false →
        ((runScenario e).led.get r i).usage ≠ [] ∨ Exhausted e (runScenario e) t r i :=
  runScenario_doneIdle e wf tr t r hel
    (runScenario_scheduled_done e t ⟨hel.el.leaf, hel.el.effort, hel.el.nomile⟩ hs) hf

/-- **C08 as stated — the unlimited resource**: when neither `r` (nor a group above it) nor `t` (nor a container above it)
    carries a limit, every working slot of `r` between the bound and the end of `t` carries a booking in the final ledger.
    The task never waits, and never pauses, while its resource could work for it. -/
theorem no_idle_final (e : Env) (wf : WF e) (tr : Tree e) (t r : Nat) (hel : EligU e t r)
    (hrl : resLimitIds e r = []) (htl : taskLimitIds e t = [])
    (hs : ((runScenario e).tst t).scheduled = true) (hf : ((runScenario e).tst t).forward = true) :
    (∀ dp ∈ (e.taskD t).allDeps, ((runScenario e).tst dp.target).scheduled = true) ∧
    ∀ L, usageOf ((runScenario e).led.get r L).usage t ≠ none →
      ∀ i, boundSlot e (runScenario e) t ≤ i → i ≤ L → e.onShift r i = true → e.leaveMark r i = false →
        ((runScenario e).led.get r i).usage ≠ [] := by
  obtain ⟨h1, h2⟩ := no_idle_final_limits e wf tr t r hel hs hf
  exact ⟨h1, fun L hL i hb hi hon hnl => (h2 L hL i hb hi hon hnl).resolve_right (not_exhausted hrl htl)⟩

/-- the same for the environment elaborated from a project description, under the decidable checks -/
theorem no_idle_final_elab (p : RawProj) (h : wfCheck (elaborate p).env = true) (htr : treeCheck (elaborate p).env = true)
    (t r : Nat) (hel : EligU (elaborate p).env t r)
    (hrl : resLimitIds (elaborate p).env r = []) (htl : taskLimitIds (elaborate p).env t = [])
    (hs : ((runScenario (elaborate p).env).tst t).scheduled = true)
    (hf : ((runScenario (elaborate p).env).tst t).forward = true) :
    ∀ L, usageOf ((runScenario (elaborate p).env).led.get r L).usage t ≠ none →
      ∀ i, boundSlot (elaborate p).env (runScenario (elaborate p).env) t ≤ i → i ≤ L →
        (elaborate p).env.onShift r i = true → (elaborate p).env.leaveMark r i = false →
        ((runScenario (elaborate p).env).led.get r i).usage ≠ [] :=
  (no_idle_final _ (wfCheck_sound _ h) (treeCheck_sound _ htr) t r hel hrl htl hs hf).2

/-- an effort task allocated to the single leaf resource `r` (no alternative) -/
theorem eligB_of_single (e : Env) (t r : Nat) (hlf : (e.taskD t).leaf = true) (ha : (e.taskD t).hasAlloc = true)
    (hm : (e.taskD t).milestone = false) (hpos : 0 < (e.taskD t).effort)
    (hal : (e.taskD t).alloc = [r]) (halt : (e.taskD t).alt = []) (hrleaf : (e.resD r).leaf = true) : EligB e t r :=
  ⟨⟨hlf, ha, hm, hpos, fun σ c => by rw [hal, halt]; exact selectBest_single e σ r _ c⟩, hrleaf, by rw [hal, halt]; simp⟩

/-- **C08 for whole projects, backward (ALAP) mode** (`Proofs/VisitsBack`, `Proofs/NoIdleBack`): after scheduling ANY
    well-formed project, for every backward effort task `t` reported as scheduled with the single selected leaf resource `r`,
    between any slot `L` in which `t` is booked (in particular the one that holds its end) and the last slot before its
    deadline — the end it carried when the scheduling loop started (explicit, or inherited from a container), else the
    earliest `start − gap` of its successors and the project end, all read off the FINAL schedule (`deadlineG`) — every slot in
    which `r` is on shift and not on leave carries a booking in the final ledger, or a limit refuses it.  (That the task ends
    no later than this deadline is C04's `task_end_respects_deadline` / `backward_deps_respected`.) -/
theorem no_idle_final_alap (e : Env) (wf : WF e) (tr : Tree e) (t r : Nat) (hel : EligB e t r)
    (hs : ((runScenario e).tst t).scheduled = true) (hf : ((runScenario e).tst t).forward = false) :
    ∀ L, usageOf ((runScenario e).led.get r L).usage t ≠ none →
      ∀ i, L ≤ i → i ≤ e.idx (deadlineG e (loopStart e) (runScenario e) t) - 1 →
        e.onShift r i = true → e.leaveMark r i = false →
        ((runScenario e).led.get r i).usage ≠ [] ∨ Exhausted e (runScenario e) t r i :=
  (runScenario_doneIdleB e wf tr t r hel
    (runScenario_scheduled_done e t ⟨hel.el.leaf, hel.el.effort, hel.el.nomile⟩ hs) hf).2.2

/-- **an ALAP task ends no later than its deadline** (whole projects): the reported end of every scheduled backward effort
    task with a single selected leaf resource is at or before `deadlineG` — the end it carried when the loop started (explicit
    or inherited), else the earliest `start − gap` of its successors and the project end in the FINAL schedule -/
theorem alap_ends_by_deadline (e : Env) (wf : WF e) (tr : Tree e) (t r : Nat) (hel : EligB e t r)
    (hs : ((runScenario e).tst t).scheduled = true) (hf : ((runScenario e).tst t).forward = false) :
    ∃ v, ((runScenario e).tst t).stop = some v ∧ v ≤ deadlineG e (loopStart e) (runScenario e) t :=
  (runScenario_doneIdleB e wf tr t r hel
    (runScenario_scheduled_done e t ⟨hel.el.leaf, hel.el.effort, hel.el.nomile⟩ hs) hf).2.1

/-- … and for an unlimited resource and task the slot is booked -/
theorem no_idle_final_alap_unlimited (e : Env) (wf : WF e) (tr : Tree e) (t r : Nat) (hel : EligB e t r)
    (hrl : resLimitIds e r = []) (htl : taskLimitIds e t = [])
    (hs : ((runScenario e).tst t).scheduled = true) (hf : ((runScenario e).tst t).forward = false) :
    ∀ L, usageOf ((runScenario e).led.get r L).usage t ≠ none →
      ∀ i, L ≤ i → i ≤ e.idx (deadlineG e (loopStart e) (runScenario e) t) - 1 →
        e.onShift r i = true → e.leaveMark r i = false → ((runScenario e).led.get r i).usage ≠ [] := by
  intro L hL i h1 h2 hon hnl
  exact (no_idle_final_alap e wf tr t r hel hs hf L hL i h1 h2 hon hnl).resolve_right (not_exhausted hrl htl)

/-- one backward task, any start state: the visited slots are `cursor, cursor − 1, …`, none skipped -/
theorem backward_visits_are_consecutive (e : Env) (t : Nat) (fuel : Nat) (σ : St) (w : Walk) (k : Nat)
    (hk : k < (walkVisitsB e t fuel σ w).length) : ((walkVisitsB e t fuel σ w)[k]).2.cur = w.cur - k :=
  walkVisitsB_consecutive e t fuel σ w k hk

/-- **C08 for forward teams** (corollary of `C07.team_earliest_fit`): between the bound slot and any slot the team is
    booked in, every slot in which ALL members are on shift and not on leave carries a booking on some member — the team's own
    (then on every member), or another task's — or some limit of a member or of the task has no room left there for the whole
    team: the team never waits while all of its resources could work for it -/
theorem no_idle_final_team (e : Env) (wf : WF e) (tr : Tree e) (t : Nat) (sel : List Nat) (hel : TeamU e t sel)
    (hs : ((runScenario e).tst t).scheduled = true) (hf : ((runScenario e).tst t).forward = true) :
    ∀ L m0, m0 ∈ sel → usageOf ((runScenario e).led.get m0 L).usage t ≠ none →
      ∀ i, boundSlot e (runScenario e) t ≤ i → i ≤ L → (∀ m ∈ sel, e.onShift m i = true ∧ e.leaveMark m i = false) →
        (∃ m ∈ sel, ((runScenario e).led.get m i).usage ≠ []) ∨ TeamTight e (runScenario e) t sel i := by
  obtain ⟨order, rest, _, hT⟩ := runScenario_placementT e wf tr
  obtain ⟨post, pre, _, hfit⟩ := hT t sel hel
    (runScenario_scheduled_done e t ⟨hel.el.leaf, hel.el.effort, hel.el.nomile⟩ hs) hf
  intro L m0 hm0 hL i hb hi hall
  rcases hfit L m0 hm0 hL i hb hi hall with h1 | ⟨m, hm, t', _, h1⟩ | h1
  · exact Or.inl ⟨m0, hm0, usage_ne_nil_of_usageOf (h1 m0 hm0)⟩
  · exact Or.inl ⟨m, hm, usage_ne_nil_of_usageOf h1⟩
  · exact Or.inr h1

/-- unlimited forward teams: no limits anywhere, so an all-working slot in the interval is booked on some member -/
theorem no_idle_final_team_unlimited (e : Env) (wf : WF e) (tr : Tree e) (t : Nat) (sel : List Nat) (hel : TeamU e t sel)
    (hrl : ∀ m ∈ sel, resLimitIds e m = []) (htl : taskLimitIds e t = [])
    (hs : ((runScenario e).tst t).scheduled = true) (hf : ((runScenario e).tst t).forward = true) :
    ∀ L m0, m0 ∈ sel → usageOf ((runScenario e).led.get m0 L).usage t ≠ none →
      ∀ i, boundSlot e (runScenario e) t ≤ i → i ≤ L → (∀ m ∈ sel, e.onShift m i = true ∧ e.leaveMark m i = false) →
        ∃ m ∈ sel, ((runScenario e).led.get m i).usage ≠ [] := by
  intro L m0 hm0 hL i hb hi hall
  rcases no_idle_final_team e wf tr t sel hel hs hf L m0 hm0 hL i hb hi hall with h1 | h1
  · exact h1
  · exact (teamTight_unlimited hrl htl h1).elim

/-- what makes "not available" mean "booked": in every state a scenario run ends in, a slot without entries still has room
    (a start-offset reservation or a team levelling never fills a slot by itself) and a marked slot carries an entry -/
theorem reservations_never_fill_a_slot (e : Env) (wf : WF e) : Solid e (runScenario e) :=
  runScenario_closed (solid_closed e) wf (fun _ => trivial) (solid_init e wf)

/-- a limit that refuses: its counter for the period of the slot is at (or above) the limit -/
theorem refuses_iff (e : Env) (σ : St) (lid : Nat) (i : Int) (ro : Option Nat) :
    Refuses e lid i ro σ ↔
      ¬ ((e.limitD lid).res.isSome && (e.limitD lid).res != ro) = true ∧ 0 ≤ e.period (e.limitD lid) i ∧
      (e.limitD lid).value ≤ σ.cnt.get lid (e.period (e.limitD lid) i) :=
  limitOk_false_iff e σ lid i ro

/-- non-vacuity: b (1 h) depends on a (20 min) with a gap of 90 min, one resource -/
def gapProj : RawProj :=
  { G := 3600, start := 1736121600, stop := 1737331200,
    res := [{}],
    tasks := [{ effort := some (1/3), alloc := some ([0], []) },
              { effort := some 1, alloc := some ([0], []), deps := [{ target := 0, gap := 5400 }] }] }

example : wfCheck (elaborate gapProj).env = true := by decide +kernel
example : treeCheck (elaborate gapProj).env = true := by decide +kernel
example : EligU (elaborate gapProj).env 1 0 :=
  eligU_of_single _ 1 0 (by decide +kernel) (by decide +kernel) (by decide +kernel) (by decide +kernel) (by decide +kernel)
    (by decide +kernel) (by decide +kernel) (by decide +kernel)
example : resLimitIds (elaborate gapProj).env 0 = [] ∧ taskLimitIds (elaborate gapProj).env 1 = [] := by decide +kernel

/-- **C08 with an alternative** (`Proofs/NoIdleAlt`): after scheduling ANY well-formed project, for every forward effort task
    `t` reported as scheduled, without a start of its own, with one primary and one alternative resource (both leaves): every
    predecessor is scheduled, and on ONE of the two candidates — the one `_selectBestResources` chose at the first slot; by
    `C03.bookings_on_one_candidate_set` the task holds nothing on the other; it IS booked on this one — between the slot of the dependency bound and any
    slot `L` in which `t` is booked on it, every slot in which that resource is on shift and not on leave carries a booking in
    the final ledger, or a limit refuses that slot in the final state. -/
theorem no_idle_final_with_alternative (e : Env) (wf : WF e) (tr : Tree e) (t r1 r2 : Nat) (hel : EligAltU e t r1 r2)
    (hs : ((runScenario e).tst t).scheduled = true) (hf : ((runScenario e).tst t).forward = true) :
    (∀ dp ∈ (e.taskD t).allDeps, ((runScenario e).tst dp.target).scheduled = true) ∧
    ∃ r, (r = r1 ∨ r = r2) ∧ (∃ L, usageOf ((runScenario e).led.get r L).usage t ≠ none) ∧
      ∀ L, usageOf ((runScenario e).led.get r L).usage t ≠ none →
        ∀ i, boundSlot e (runScenario e) t ≤ i → i ≤ L → e.onShift r i = true → e.leaveMark r i = false →
          ((runScenario e).led.get r i).usage ≠ [] ∨ Exhausted e (runScenario e) t r i :=
  runScenario_doneIdleAlt e wf tr t r1 r2 hel
    (runScenario_scheduled_done e t ⟨hel.el.leaf, hel.el.effort, hel.el.nomile⟩ hs) hf

/-- **C08 with an alternative, ALAP half** (`Proofs/NoIdleBackAlt`): after scheduling ANY well-formed project, every backward
    effort task `t` reported as scheduled with one primary and one alternative resource (both leaves) ends no later than its
    deadline (`deadlineG`: the end it carried when the loop started, else the earliest `start − gap` of its successors and the
    project end in the FINAL schedule), is booked on ONE of its two candidates, and on that one, between any slot `L` in which
    it is booked and the last slot before the deadline, every slot in which the resource is on shift and not on leave carries a
    booking in the final ledger, or a limit refuses it. -/
theorem no_idle_final_alap_with_alternative (e : Env) (wf : WF e) (tr : Tree e) (t r1 r2 : Nat) (hel : EligAltB e t r1 r2)
    (hs : ((runScenario e).tst t).scheduled = true) (hf : ((runScenario e).tst t).forward = false) :
    (∃ v, ((runScenario e).tst t).stop = some v ∧ v ≤ deadlineG e (loopStart e) (runScenario e) t) ∧
    ∃ r, (r = r1 ∨ r = r2) ∧ (∃ L, usageOf ((runScenario e).led.get r L).usage t ≠ none) ∧
      ∀ L, usageOf ((runScenario e).led.get r L).usage t ≠ none →
        ∀ i, L ≤ i → i ≤ e.idx (deadlineG e (loopStart e) (runScenario e) t) - 1 →
          e.onShift r i = true → e.leaveMark r i = false →
          ((runScenario e).led.get r i).usage ≠ [] ∨ Exhausted e (runScenario e) t r i :=
  (runScenario_doneIdleBAlt e wf tr t r1 r2 hel
    (runScenario_scheduled_done e t ⟨hel.el.leaf, hel.el.effort, hel.el.nomile⟩ hs) hf).2

/-- **C08 for ALAP teams** (`Proofs/TeamBack`, `Proofs/TeamLimits`): after scheduling ANY well-formed project, every backward
    team task reported as scheduled — several pairwise different leaf resources; members, groups, task and containers may carry
    limits — ends no later than its deadline (`deadlineG`), and between any slot `L` in which it is booked and the last slot
    before the deadline, every slot in which ALL its members are on shift and not on leave carries the task on every member, or
    a booking on some member, or some limit has no room left there for the whole team (`TeamTight`, see `C07.teamTight_iff`):
    the team never ends earlier than it has to while all of its resources could still work for it. -/
theorem no_idle_final_alap_team (e : Env) (wf : WF e) (tr : Tree e) (t : Nat) (sel : List Nat) (hel : TeamUB e t sel)
    (hs : ((runScenario e).tst t).scheduled = true) (hf : ((runScenario e).tst t).forward = false) :
    (∃ v, ((runScenario e).tst t).stop = some v ∧ v ≤ deadlineG e (loopStart e) (runScenario e) t) ∧
    ∀ L m0, m0 ∈ sel → usageOf ((runScenario e).led.get m0 L).usage t ≠ none →
      ∀ i, L ≤ i → i ≤ e.idx (deadlineG e (loopStart e) (runScenario e) t) - 1 →
        (∀ m ∈ sel, e.onShift m i = true ∧ e.leaveMark m i = false) →
        (∀ m ∈ sel, usageOf ((runScenario e).led.get m i).usage t ≠ none) ∨
        (∃ m ∈ sel, ((runScenario e).led.get m i).usage ≠ []) ∨ TeamTight e (runScenario e) t sel i :=
  (runScenario_doneIdleBT e wf tr t sel hel
    (runScenario_scheduled_done e t ⟨hel.el.leaf, hel.el.effort, hel.el.nomile⟩ hs) hf).2

/-- unlimited ALAP teams: no limits anywhere, so the third case cannot occur -/
theorem no_idle_final_alap_team_unlimited (e : Env) (wf : WF e) (tr : Tree e) (t : Nat) (sel : List Nat) (hel : TeamUB e t sel)
    (hrl : ∀ m ∈ sel, resLimitIds e m = []) (htl : taskLimitIds e t = [])
    (hs : ((runScenario e).tst t).scheduled = true) (hf : ((runScenario e).tst t).forward = false) :
    ∀ L m0, m0 ∈ sel → usageOf ((runScenario e).led.get m0 L).usage t ≠ none →
      ∀ i, L ≤ i → i ≤ e.idx (deadlineG e (loopStart e) (runScenario e) t) - 1 →
        (∀ m ∈ sel, e.onShift m i = true ∧ e.leaveMark m i = false) →
        (∀ m ∈ sel, usageOf ((runScenario e).led.get m i).usage t ≠ none) ∨
        ∃ m ∈ sel, ((runScenario e).led.get m i).usage ≠ [] := by
  intro L m0 hm0 hL i h1 h2 hall
  rcases (no_idle_final_alap_team e wf tr t sel hel hs hf).2 L m0 hm0 hL i h1 h2 hall with h3 | h3 | h3
  · exact Or.inl h3
  · exact Or.inr h3
  · exact (teamTight_unlimited hrl htl h3).elim

end SP.C08
