import Model
import Proofs.Walk
import Proofs.Round
import Proofs.FrameWalk
import Proofs.FrameBack
import Proofs.FrameTeam
import Proofs.FrameTeamBack
import Proofs.FrameAlt
import Proofs.Ordered
import Proofs.TeamOrdered
import Proofs.WFCheck
/-!
C06 — reported start and end frame exactly the booked work.

Forward finish: `end = time(cur) + round(usedBefore + need)` with `usedBefore + need ≤ used ≤ G`, so the
end lies in the finishing slot (after whatever was used before) and never beyond it.  Milestones: start =
end = the dependency bound (cursor + offset).
-/
namespace SP.C06
open SP

theorem roundHalfEven_bounds (x : Rat) : (x.floor : Int) ≤ roundHalfEven x ∧ roundHalfEven x ≤ x.floor + 1 :=
  SP.roundHalfEven_bounds x

theorem roundHalfEven_mono_int (x : Rat) (n : Int) (h : x ≤ (n : Rat)) : roundHalfEven x ≤ n :=
  SP.roundHalfEven_mono_int x n h

theorem roundHalfEven_nonneg (x : Rat) (h : 0 ≤ x) : 0 ≤ roundHalfEven x :=
  SP.roundHalfEven_nonneg x h

/-- the reported date of a finishing task lies inside the finishing slot: `time(cur) ≤ end ≤ time(cur+1)`
    whenever the amount it accounts for is within the slot (`0 ≤ usedBefore + need ≤ G`) -/
theorem finish_date_in_slot (e : Env) (cur : Int) (x : Rat) (h0 : 0 ≤ x) (h1 : x ≤ (e.G : Rat)) :
    e.time cur ≤ e.time cur + roundHalfEven x ∧ e.time cur + roundHalfEven x ≤ e.time (cur + 1) ∧
    e.time cur ≤ e.time cur + e.G - roundHalfEven x ∧ e.time cur + e.G - roundHalfEven x ≤ e.time (cur + 1) := by
  have a := roundHalfEven_nonneg x h0
  have b := roundHalfEven_mono_int x e.G h1
  have := time_succ e cur
  omega

/-- a milestone without a pinned date is placed at `time(cur) + offset` = its dependency bound,
    with start = end -/
theorem milestone_at_bound (e : Env) (σ : St) (t : Nat) (w : Walk)
    (hms : ((e.taskD t).milestone || (e.taskD t).effort == 0) = true)
    (hf : (σ.tst t).forward = true) (hns : ((σ.tst t).start.isSome && (e.taskD t).startProvided) = false) :
    let r := scheduleSlot e σ t w
    r.2.2 = false ∧
    (r.1.ts.size = σ.ts.size) := by
  unfold scheduleSlot
  simp only [hms, hf, hns, if_true, Bool.false_eq_true, if_false]
  exact ⟨trivial, by simp [St.setT]⟩

/-- the date a forward milestone receives -/
def milestoneDate (e : Env) (w : Walk) : Int := e.time w.cur + (if w.offset > 0 then w.offset.floor else 0)

/-- with the cursor and offset of a bound `x ≥ project start`, that date is `x` itself -/
theorem milestoneDate_is_bound (e : Env) (wf : WF e) (x : Int) (hx : e.start ≤ x) :
    milestoneDate e { cur := (cursorOf e x).1, offset := (cursorOf e x).2 } = x := by
  have hle := (idx_floor e wf.G_pos x hx).1
  unfold milestoneDate cursorOf
  simp only []
  split
  · rename_i hgt
    have hpos : (0 : Rat) < ((x - e.time (e.idx x) : Int) : Rat) := by
      have : (0 : Int) < x - e.time (e.idx x) := by omega
      exact_mod_cast this
    rw [if_pos hpos, Rat.floor_intCast]
    omega
  · rw [if_neg Rat.lt_irrefl]
    omega

/-- **C06 for whole projects**: after scheduling ANY well-formed project, for every effort task — forward (ASAP) or backward
    (ALAP) — with a single selected resource `r` that is reported as scheduled there are a first slot `fb` and a last slot
    `last`, both carrying a booking of the task, such that every booking of the task on `r` lies in `[fb, last]`, the
    reported start lies inside slot `fb` and the reported end inside slot `last` (in backward mode: exactly at its end) —
    the interval frames the booked work, slot-exactly. -/
theorem start_end_frame_bookings (e : Env) (wf : WF e) (t r : Nat) (hel : Elig e t r)
    (hs : ((runScenario e).tst t).scheduled = true) :
    ∃ fb last : Int, fb ≤ last ∧
      usageOf ((runScenario e).led.get r fb).usage t ≠ none ∧ usageOf ((runScenario e).led.get r last).usage t ≠ none ∧
      (∀ i, usageOf ((runScenario e).led.get r i).usage t ≠ none → fb ≤ i ∧ i ≤ last) ∧
      (∃ v, ((runScenario e).tst t).start = some v ∧ e.time fb ≤ v ∧ v ≤ e.time (fb + 1)) ∧
      (∃ v, ((runScenario e).tst t).stop = some v ∧ e.time last ≤ v ∧ v ≤ e.time (last + 1)) :=
  runScenario_framed_all e wf t r hel (runScenario_scheduled_done e t ⟨hel.leaf, hel.effort, hel.nomile⟩ hs)

/-- the same for the environment elaborated from a project description, under the decidable check -/
theorem start_end_frame_bookings_elab (p : RawProj) (h : wfCheck (elaborate p).env = true) (t r : Nat)
    (hel : Elig (elaborate p).env t r)
    (hs : ((runScenario (elaborate p).env).tst t).scheduled = true) :
    Framed (elaborate p).env (runScenario (elaborate p).env) t r :=
  start_end_frame_bookings _ (wfCheck_sound _ h) t r hel hs

/-- one task, backward mode: `schedule()` from any state leaves the task framed -/
theorem task_framed_backward (e : Env) (wf : WF e) (σ : St) (t r : Nat)
    (hinv : Inv e σ) (hel : Elig e t r) (hb : t < σ.ts.size) (hf : (σ.tst t).forward = false)
    (hnd : (σ.tst t).done = false) (hclean : ∀ i, usageOf (σ.led.get r i).usage t = none)
    (hok : (scheduleTask e σ t).2 = true) : Framed e (scheduleTask e σ t).1 t r :=
  scheduleTask_framed_back e wf σ t r hinv hel hb hf hnd hclean hok

/-- **C06 for teams**: after scheduling ANY well-formed project, every team task — forward (ASAP) or backward (ALAP); its
    allocation always selects the same several members `sel`, pairwise different, of one common efficiency `η` — that is
    reported as scheduled is framed on EVERY member `r`: there are a first slot `fb` and a last slot `last`, both carrying a
    booking of the task on `r`, every booking of the task on `r` lies in `[fb, last]`, the reported start lies inside slot
    `fb` and the reported end inside slot `last` (in backward mode: exactly at its end). -/
theorem team_framed (e : Env) (wf : WF e) (t : Nat) (sel : List Nat) (η : Rat) (hel : TeamElig e t sel η)
    (r : Nat) (hr : r ∈ sel) (hs : ((runScenario e).tst t).scheduled = true) :
    ∃ fb last : Int, fb ≤ last ∧
      usageOf ((runScenario e).led.get r fb).usage t ≠ none ∧ usageOf ((runScenario e).led.get r last).usage t ≠ none ∧
      (∀ i, usageOf ((runScenario e).led.get r i).usage t ≠ none → fb ≤ i ∧ i ≤ last) ∧
      (∃ v, ((runScenario e).tst t).start = some v ∧ e.time fb ≤ v ∧ v ≤ e.time (fb + 1)) ∧
      (∃ v, ((runScenario e).tst t).stop = some v ∧ e.time last ≤ v ∧ v ≤ e.time (last + 1)) :=
  runScenario_framedT_all e wf t sel η r hel hr
    (runScenario_scheduled_done e t ⟨hel.leaf, hel.effort, hel.nomile⟩ hs)

/-- the hypothesis `TeamElig` is met by the plain syntactic case (several different allocated resources of one positive
    efficiency, no alternatives): `C03.teamElig_of_alloc`; here for the environment elaborated from a project description -/
theorem team_framed_elab (p : RawProj) (h : wfCheck (elaborate p).env = true) (t : Nat) (sel : List Nat) (η : Rat)
    (hel : TeamElig (elaborate p).env t sel η) (r : Nat) (hr : r ∈ sel)
    (hs : ((runScenario (elaborate p).env).tst t).scheduled = true) :
    Framed (elaborate p).env (runScenario (elaborate p).env) t r :=
  team_framed _ (wfCheck_sound _ h) t sel η hel r hr hs

/-- **C06 with an alternative** (`Proofs/FrameAlt`): after scheduling ANY well-formed project, every effort task with one
    primary and one alternative resource that is reported as scheduled is framed on ONE of the two — the one
    `_selectBestResources` chose at its first slot (by `C03.bookings_on_one_candidate_set` it holds nothing on the other):
    first and last booked slot, every booking between them, the reported start inside the first, the reported end inside
    the last. -/
theorem framed_with_alternative (e : Env) (wf : WF e) (t r1 r2 : Nat) (hel : EligAlt e t r1 r2)
    (hs : ((runScenario e).tst t).scheduled = true) :
    ∃ r, (r = r1 ∨ r = r2) ∧ ∃ fb last : Int, fb ≤ last ∧
      usageOf ((runScenario e).led.get r fb).usage t ≠ none ∧ usageOf ((runScenario e).led.get r last).usage t ≠ none ∧
      (∀ i, usageOf ((runScenario e).led.get r i).usage t ≠ none → fb ≤ i ∧ i ≤ last) ∧
      (∃ v, ((runScenario e).tst t).start = some v ∧ e.time fb ≤ v ∧ v ≤ e.time (fb + 1)) ∧
      (∃ v, ((runScenario e).tst t).stop = some v ∧ e.time last ≤ v ∧ v ≤ e.time (last + 1)) :=
  runScenario_framed_alt e wf t r1 r2 hel (runScenario_scheduled_done e t ⟨hel.leaf, hel.effort, hel.nomile⟩ hs)

/-- **start ≤ end always** (`Proofs/Ordered`; the single-slot case rests on `bookResource_usedBefore`: the first booking in
    the slot of the dependency bound leaves the part of the slot before the bound alone, so the end, counted from what was
    used before the task's own seconds, cannot come before the start): after scheduling ANY well-formed project, every effort
    task with a single selected resource that is reported as scheduled — forward or backward, spanning many slots or beginning
    and finishing inside one — has a reported start and a reported end with start ≤ end. -/
theorem start_le_end (e : Env) (wf : WF e) (t r : Nat) (hel : Elig e t r)
    (hs : ((runScenario e).tst t).scheduled = true) :
    ∃ s v, ((runScenario e).tst t).start = some s ∧ ((runScenario e).tst t).stop = some v ∧ s ≤ v :=
  (runScenario_ordered e wf).1 t r hel (runScenario_scheduled_done e t ⟨hel.leaf, hel.effort, hel.nomile⟩ hs)

/-- the same for a task with one primary and one alternative resource -/
theorem start_le_end_with_alternative (e : Env) (wf : WF e) (t r1 r2 : Nat) (hel : EligAlt e t r1 r2)
    (hs : ((runScenario e).tst t).scheduled = true) :
    ∃ s v, ((runScenario e).tst t).start = some s ∧ ((runScenario e).tst t).stop = some v ∧ s ≤ v :=
  (runScenario_ordered e wf).2 t r1 r2 hel (runScenario_scheduled_done e t ⟨hel.leaf, hel.effort, hel.nomile⟩ hs)

/-- the same for a team whose members share one efficiency (`Proofs/TeamOrdered`: `bookResources_team_usedBefore` — after
    levelling and the offset reservation every member's slot holds at least the start offset before the team's own seconds) -/
theorem start_le_end_team (e : Env) (wf : WF e) (t : Nat) (sel : List Nat) (η : Rat) (hel : TeamElig e t sel η)
    (hs : ((runScenario e).tst t).scheduled = true) :
    ∃ s v, ((runScenario e).tst t).start = some s ∧ ((runScenario e).tst t).stop = some v ∧ s ≤ v :=
  runScenario_orderedT e wf t sel η hel (runScenario_scheduled_done e t ⟨hel.leaf, hel.effort, hel.nomile⟩ hs)

end SP.C06
