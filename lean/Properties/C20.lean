import Model
import Proofs.Cli
import Proofs.CliClean
import Proofs.CliConc
/-!
C20 — CLI runs leave no trace and do not interfere with each other.

`Variant.repaired` is plan.py after notes/patches/F17, F18, F26, F43; the `pinned_*` theorems are the
refutations for the code as pinned (one concrete witness each).
-/
namespace SP.C20
open SP.Cli
variable {B R : Type}

/-- **No leftover (file-system form).**  For every input, every channel and format, every fault point
    and every engine outcome: when `plan report` (stdout target) has exited, the file system is the
    one it started from — nothing added in the temp directory, nothing in the working directory,
    nothing anywhere else — provided the engine writes only below its output directory.
    (`run_exited` shows every run does exit within `fuel` steps.) -/
theorem no_leftover (env : Cli.Env B R) (v : Variant) (c : Config B) (fs0 : FS B R)
    (hv : v.f43 = true) (hout : c.out = none) (hfp : ∀ b, Footprint env v c.pid b c.rid c.fmt)
    (hfresh : Fresh c.pid fs0) :
    (run env v c fs0).1.pc = .exited ∧ ∀ p, (run env v c fs0).2 p = fs0 p :=
  ⟨run_exited env v c fs0,
   clean_exited c fs0 _ (clean_run env v c fs0 hv hout hfp hfresh) (run_exited env v c fs0)⟩

/-- **No leftover (trace form).**  created \ removed = ∅: of the paths the run created, none is left. -/
theorem created_minus_removed_empty (env : Cli.Env B R) (v : Variant) (c : Config B) (fs0 : FS B R)
    (hv : v.f43 = true) (hout : c.out = none) (hfp : ∀ b, Footprint env v c.pid b c.rid c.fmt)
    (hfresh : Fresh c.pid fs0) : leftover (run env v c fs0).1.trace = [] := by
  have htr := run_trace_applied env v c fs0
  have hown := run_trace_owned env v c fs0 hout hfp
  have hfin := (no_leftover env v c fs0 hv hout hfp hfresh).2
  generalize run env v c fs0 = s at htr hown hfin
  apply List.eq_nil_iff_forall_not_mem.mpr
  intro p hp
  have hex := leftover_exists fs0 _ p hp
  obtain ⟨n, hn⟩ := leftover_was_set _ p hp
  obtain ⟨k, (hk : res c.pid p = some k)⟩ := hown _ hn
  have ho : owns c.pid p = true := by rw [owns_eq_res, hk]; rfl
  rw [← htr, hfin p, hfresh p ho] at hex
  exact hex rfl

/-- the repaired engine call (`--report <auto id>`) satisfies the footprint hypothesis as soon as no
    report of any text uses the random id -/
theorem repaired_footprint (env : Cli.Env B R) (c : Config B)
    (hid : ∀ b, ∀ r ∈ env.reports b, r.id ≠ c.rid) (b : B) :
    Footprint env .repaired c.pid b c.rid c.fmt :=
  footprint_filtered env .repaired c b rfl (hid b)

/-- the repaired `plan report` leaves no trace, whatever reports the project defines and wherever
    their names point -/
theorem repaired_no_leftover (env : Cli.Env B R) (c : Config B) (fs0 : FS B R) (hout : c.out = none)
    (hid : ∀ b, ∀ r ∈ env.reports b, r.id ≠ c.rid) (hfresh : Fresh c.pid fs0) :
    (∀ p, (run env .repaired c fs0).2 p = fs0 p) ∧ leftover (run env .repaired c fs0).1.trace = [] :=
  ⟨(no_leftover env .repaired c fs0 rfl hout (repaired_footprint env c hid) hfresh).2,
   created_minus_removed_empty env .repaired c fs0 rfl hout (repaired_footprint env c hid) hfresh⟩

/-- **Non-interference.**  For every number of processes, every interleaving `σ` of their steps and
    every process `i`: what `i` has computed (program counter, stdout, exit code, everything local)
    is exactly what it computes alone in the same number of its own steps — provided each process's
    engine stays inside its output directory. -/
theorem noninterference (env : Cli.Env B R) (v : Variant) (cfg : Nat → Config B) (fs0 : FS B R) (hs : Setup cfg)
    (hfp : ∀ i b, Footprint env v i b (cfg i).rid (cfg i).fmt) (σ : List Nat) (i : Nat) :
    (exec env v cfg (init fs0) σ).locals i = (solo env v cfg fs0 i (σ.count i)).1 ∧
    Agree (cfg i) (exec env v cfg (init fs0) σ).fs (solo env v cfg fs0 i (σ.count i)).2 := by
  have h0 : Inv env v cfg fs0 (init fs0) (fun _ => 0) := by
    intro j; exact ⟨rfl, fun p _ => rfl⟩
  have := inv_exec env v cfg fs0 hs hfp σ _ _ h0 i
  simpa using this

/-- a process that got at least `fuel` steps in the interleaving has finished, with exactly the local
    state (stdout, exit code) of its solitary run -/
theorem concurrent_output_eq_solitary (env : Cli.Env B R) (v : Variant) (cfg : Nat → Config B) (fs0 : FS B R)
    (hs : Setup cfg) (hfp : ∀ i b, Footprint env v i b (cfg i).rid (cfg i).fmt) (σ : List Nat) (i : Nat)
    (hn : fuel ≤ σ.count i) :
    (exec env v cfg (init fs0) σ).locals i = (run env v (cfg i) fs0).1 ∧
    Agree (cfg i) (exec env v cfg (init fs0) σ).fs (run env v (cfg i) fs0).2 := by
  have hni := noninterference env v cfg fs0 hs hfp σ i
  obtain ⟨d, hd⟩ := Nat.exists_eq_add_of_le hn
  have hsolo : solo env v cfg fs0 i (σ.count i) = run env v (cfg i) fs0 := by
    simp only [solo, hd, iter_add]
    rw [show iter env v (cfg i) fuel ({}, fs0) = run env v (cfg i) fs0 from rfl]
    exact iter_exited _ _ _ _ _ (run_exited env v (cfg i) fs0)
  rw [hsolo] at hni
  exact hni

/-- **No trace after a concurrent experiment.**  When every process that started has run to completion
    (in whatever interleaving), the shared file system is the initial one. -/
theorem interleaved_no_trace (env : Cli.Env B R) (v : Variant) (cfg : Nat → Config B) (fs0 : FS B R)
    (hv : v.f43 = true) (hs : Setup cfg) (hfp : ∀ i b, Footprint env v i b (cfg i).rid (cfg i).fmt)
    (hfresh : ∀ i, Fresh i fs0) (σ : List Nat) (hdone : ∀ i, σ.count i = 0 ∨ fuel ≤ σ.count i) :
    ∀ p, (exec env v cfg (init fs0) σ).fs p = fs0 p := by
  have key : ∀ q p, owns q p = true → (exec env v cfg (init fs0) σ).fs p = fs0 p := by
    intro q p hq
    have hq' : owns (cfg q).pid p = true := by rw [hs.pid q]; exact hq
    rcases hdone q with h0 | hn
    · have := (noninterference env v cfg fs0 hs hfp σ q).2 p (Or.inl hq')
      rw [this, h0]; rfl
    · have := (concurrent_output_eq_solitary env v cfg fs0 hs hfp σ q hn).2 p (Or.inl hq')
      rw [this]
      exact (no_leftover env v (cfg q) fs0 hv (hs.out q)
        (fun b => by rw [hs.pid q]; exact hfp q b) (by rw [hs.pid q]; exact hfresh q)).2 p
  intro p
  cases p with
  | user n => exact exec_unowned env v cfg hs hfp _ (fun _ => rfl) σ _
  | outside f => exact exec_unowned env v cfg hs hfp _ (fun _ => rfl) σ _
  | tmp q k => exact key q _ (by simp [owns])
  | inDir q f => exact key q _ (by simp [owns])

/-- a path belongs to at most one process -/
theorem owns_unique {i j : Nat} {p : Path} (hi : owns i p = true) (hij : i ≠ j) : owns j p = false := by
  cases p <;> simp_all [owns]

/-- **Commutation.**  Steps of different processes commute: taking them in either order gives the
    same local states and the same shared file system. -/
theorem steps_commute (env : Cli.Env B R) (v : Variant) (cfg : Nat → Config B) (hs : Setup cfg)
    (hfp : ∀ i b, Footprint env v i b (cfg i).rid (cfg i).fmt) (g : Global B R) (i j : Nat) (hij : i ≠ j) :
    (gstep env v cfg (gstep env v cfg g i) j).locals = (gstep env v cfg (gstep env v cfg g j) i).locals ∧
    ∀ p, (gstep env v cfg (gstep env v cfg g i) j).fs p = (gstep env v cfg (gstep env v cfg g j) i).fs p := by
  have hji : j ≠ i := fun e => hij e.symm
  have aj := other_step_invisible env v cfg hs hfp i j hij (g.locals i) g.fs
  have ai := other_step_invisible env v cfg hs hfp j i hji (g.locals j) g.fs
  have cj := step_congr env v (cfg j) (g.locals j) (hs.out j) aj
  have ci := step_congr env v (cfg i) (g.locals i) (hs.out i) ai
  constructor
  · funext k
    simp only [gstep, hij, hji, if_false]
    by_cases hki : k = i
    · subst hki; simp [hij, ci.1]
    · by_cases hkj : k = j
      · subst hkj; simp [hji, cj.1]
      · simp [hki, hkj]
  · intro p
    simp only [gstep, hij, hji, if_false]
    have fi : ∀ l fs, owns i p = false → (step env v (cfg i) (l, fs)).2 p = fs p := fun l fs h =>
      step_frame env v (cfg i) l fs (hs.out i) (fun b => by rw [hs.pid i]; exact hfp i b) (by rw [hs.pid i]; exact h)
    have fj : ∀ l fs, owns j p = false → (step env v (cfg j) (l, fs)).2 p = fs p := fun l fs h =>
      step_frame env v (cfg j) l fs (hs.out j) (fun b => by rw [hs.pid j]; exact hfp j b) (by rw [hs.pid j]; exact h)
    cases hoi : owns i p
    · cases hoj : owns j p
      · rw [fj _ _ hoj, fi _ _ hoi, fi _ _ hoi, fj _ _ hoj]
      · rw [fi _ _ hoi]
        exact cj.2 p (Or.inl (by rw [hs.pid j]; exact hoj))
    · rw [fj _ _ (owns_unique hoi hij)]
      exact (ci.2 p (Or.inl (by rw [hs.pid i]; exact hoi))).symm

/-- witness environment: text `1` defines `taskreport zz "../e" { formats json }`, text `2` a plain-named one -/
def wEnv : Cli.Env Nat String :=
  { H := fun _ => "h", blank := fun _ => false, empty := fun _ => false, stdinCopy := id,
    engineOk := fun _ => true,
    reports := fun b =>
      if b = 1 then [⟨['z', 'z'], ['.', '.', '/', 'e'], [.json]⟩]
      else if b = 2 then [⟨['m'], ['m'], [.json, .csv]⟩] else [],
    autoBody := fun _ _ => "auto", userBody := fun _ _ _ => "user" }

/-- initial file system: `user 0`, `user 1`, `user 2` hold the texts 0, 1, 2; nothing else exists -/
def wFs : FS Nat String := fun p =>
  if p = .user 0 then some (.file (.raw 0)) else if p = .user 1 then some (.file (.raw 1))
  else if p = .user 2 then some (.file (.raw 2)) else none

def wCfg (pid : Nat) (inp : Nat) (fault : Fault) : Config Nat :=
  { pid := pid, channel := .file, inPath := .user inp, stdin := 0, fmt := .json, out := none,
    tok := [1, 2], fault := fault, dirOrder := [] }

theorem wFs_fresh (pid : Nat) : Fresh pid wFs := by
  intro p hp
  cases p <;> simp_all [owns, wFs]

/-- F18 on the pinned code: the engine-footprint hypothesis is false … -/
theorem pinned_footprint_fails : ¬ Footprint wEnv .pinned 0 1 (wCfg 0 1 .none).rid .json := by
  intro h
  obtain ⟨file, n, hop⟩ := h (Op.set (.outside ['.', '.', '/', 'e', '.', 'j', 's', 'o', 'n']) (.file (.report ['z', 'z'] "user")))
    (by decide +kernel)
  cases hop

/-- … and the run leaves the escaped report behind, outside every output directory (exit code 0) -/
theorem pinned_leaves_escaped_report :
    (run wEnv ⟨true, false, true, true⟩ (wCfg 0 1 .none) wFs).2 (.outside ['.', '.', '/', 'e', '.', 'j', 's', 'o', 'n']) ≠ none ∧
    (run wEnv ⟨true, false, true, true⟩ (wCfg 0 1 .none) wFs).1.exit = some 0 := by
  decide +kernel

/-- F43 on the pinned code: when reading the input copy fails, `plan_auto_*.tjp` is left behind -/
theorem pinned_leaves_auto_copy :
    (run wEnv ⟨true, true, true, false⟩ (wCfg 0 0 .copyRead) wFs).2 (.tmp 0 .autoCopy) ≠ none ∧
    leftover (run wEnv ⟨true, true, true, false⟩ (wCfg 0 0 .copyRead) wFs).1.trace = [.tmp 0 .autoCopy] := by
  decide +kernel

/-- hence the full property fails for the pinned program text -/
theorem pinned_no_leftover_fails :
    ¬ (∀ (c : Config Nat) (fs0 : FS Nat String), c.out = none → Fresh c.pid fs0 →
        ∀ p, (run wEnv .pinned c fs0).2 p = fs0 p) := by
  intro h
  have := h (wCfg 0 0 .copyRead) wFs rfl (wFs_fresh 0) (.tmp 0 .autoCopy)
  revert this
  decide +kernel

/-- non-vacuity: the hypotheses of `repaired_no_leftover` hold for the witness, with a project that
    defines an escaping report, and the run is a successful one that did create and remove things -/
example : (wCfg 0 1 .none).out = none ∧ (∀ b, ∀ r ∈ wEnv.reports b, r.id ≠ (wCfg 0 1 .none).rid) ∧
    Fresh 0 wFs ∧ (run wEnv .repaired (wCfg 0 1 .none) wFs).1.exit = some 0 ∧
    (run wEnv .repaired (wCfg 0 1 .none) wFs).1.trace.length = 6 := by
  refine ⟨rfl, ?_, wFs_fresh 0, by decide +kernel, by decide +kernel⟩
  intro b r hr
  simp only [wEnv] at hr
  split at hr
  · simp at hr; subst hr; decide
  · split at hr
    · simp at hr; subst hr; decide
    · simp at hr

/-- non-vacuity of `Setup` and of the footprint hypothesis for three concurrent processes on different inputs -/
example : Setup (fun i => wCfg i (i % 3) .none) ∧
    ∀ i b, Footprint wEnv .repaired i b (wCfg i (i % 3) .none).rid (wCfg i (i % 3) .none).fmt := by
  refine ⟨⟨fun _ => rfl, fun _ => rfl, fun i => ⟨i % 3, rfl⟩⟩, ?_⟩
  intro i b
  have := repaired_footprint wEnv (wCfg i (i % 3) .none) ?_ b
  · exact this
  · intro b r hr
    simp only [wEnv] at hr
    split at hr
    · simp at hr; subst hr; simp [Config.rid, wCfg, ridPrefix]
    · split at hr
      · simp at hr; subst hr; simp [Config.rid, wCfg, ridPrefix]
      · simp at hr

/-- two pinned processes given the same escaping report name write the same outside path: the
    disjointness on which non-interference rests is gone -/
theorem pinned_escapes_collide :
    (Op.set (.outside ['.', '.', '/', 'e', '.', 'j', 's', 'o', 'n']) (.file (.report ['z', 'z'] "user")) : Op Nat String)
      ∈ engineOps wEnv .pinned 0 1 (wCfg 0 1 .none).rid .json ∧
    (Op.set (.outside ['.', '.', '/', 'e', '.', 'j', 's', 'o', 'n']) (.file (.report ['z', 'z'] "user")) : Op Nat String)
      ∈ engineOps wEnv .pinned 7 1 (wCfg 7 1 .none).rid .json := by
  decide +kernel

end SP.C20
