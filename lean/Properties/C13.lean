import Model
import Model.Calendar
import Proofs.Scan
/-!
C13 — compiled fast paths ≡ pure-Python fallbacks (slot conversion, scan, working hours).  The compiled variants
are modelled separately (`cy*`), with C `int` arguments as an explicit range guard; inside the guard they are proved
equal to the pure-Python models.
-/
namespace SP.C13
open SP

/-- C-int guard for a board and an index -/
def Guard (b : Board) (i : Int) : Prop :=
  inCInt i = true ∧ inCInt b.G = true ∧ inCInt b.size = true ∧ inCInt (i * b.G) = true

theorem idxToDate_equiv (b : Board) (i : Int) (f : Bool) (g : Guard b i) :
    cyIdxToDate b i f = pyIdxToDate b i f := by
  obtain ⟨g1, g2, g3, g4⟩ := g
  cases f <;> simp [cyIdxToDate, pyIdxToDate, Board.time, g1, g2, g3, g4]

theorem dateToIdx_equiv (b : Board) (t : Int) (f : Bool)
    (g : inCInt b.G = true ∧ inCInt b.size = true ∧ inCInt (b.rawIdx t) = true) :
    cyDateToIdx b t f = pyDateToIdx b t f := by
  obtain ⟨g1, g2, g3⟩ := g
  cases f <;> simp [cyDateToIdx, pyDateToIdx, g1, g2, g3, apply_ite Res.ok]

theorem projIdxToDate_equiv (g : Grid) (i : Int)
    (h : inCInt i = true ∧ inCInt g.G = true ∧ inCInt (i * g.G) = true) :
    cyProjIdxToDate g i = .ok (g.time i) := by
  obtain ⟨h1, h2, h3⟩ := h
  simp [cyProjIdxToDate, Grid.time, h1, h2, h3]

theorem projDateToIdx_equiv (g : Grid) (t : Int) (h : inCInt g.G = true ∧ inCInt (g.idx t) = true) :
    cyProjDateToIdx g t = .ok (g.idx t) := by
  obtain ⟨h1, h2⟩ := h
  simp [cyProjDateToIdx, h1, h2]

/-- the two scan loops are the same function of (table, window, minimum length) — including the
    evaluation order difference (`pred and idx < end` vs `pred if idx < end else False`) -/
theorem scan_equiv (pat : List Bool) (sIdx eIdx : Int) (m : Nat) :
    cyScan pat sIdx eIdx m = pyScan pat sIdx eIdx m := by
  unfold cyScan pyScan
  simp only []
  have hstep : cyScanStep pat sIdx eIdx (scanHi eIdx pat.length m) m = scanStep pat sIdx eIdx (scanHi eIdx pat.length m) m := by
    funext st i
    unfold cyScanStep scanStep
    by_cases h : i < scanHi eIdx pat.length m <;> simp [h]
  rw [hstep]

/-- non-vacuity: a realistic board and index satisfy the guard -/
example : Guard ⟨1736121600, 1737331200, 900⟩ 1344 := by unfold Guard; decide

/-- the compiled `check_working_hours_fast` (a weekday missing from the table falls through to the
    previous-day loop) decides exactly what the pure-Python loop decides -/
theorem onShift_equiv (h : Hours) (wd m : Int) : h.onCy wd m = h.on wd m := by
  unfold Hours.onCy Hours.on
  simp only []
  cases hd : h.day wd with
  | nil => simp
  | cons x xs =>
    simp only [List.isEmpty_cons, Bool.false_eq_true, if_false, ge_iff_le]
    generalize ((x :: xs).any fun iv => if iv.2 ≤ iv.1 then decide (iv.1 ≤ m) else decide (iv.1 ≤ m) && decide (m < iv.2)) = b
    cases b <;> simp

/-- both `get_daily_hours` variants divide the same integer minute total by 60 (after the `fix:` both
    in double precision): the minute totals agree -/
theorem daily_minutes_equiv (h : Hours) (wd : Int) :
    h.dailyMinutes wd = (h.day wd).foldl (fun acc iv => acc + (iv.2 - iv.1)) 0 := rfl

/-- the previous weekday used for cross-midnight tails is `(wd + 6) % 7` in C and `(wd - 1) % 7` in
    Python: equal for every weekday 0..6 (the pinned `.pyx` used C's `%` on `wd - 1`: −1 for Monday) -/
theorem prev_weekday_equiv (wd : Int) (h : 0 ≤ wd ∧ wd < 7) : (wd + 6) % 7 = (wd - 1) % 7 := by
  rw [show wd + 6 = wd - 1 + 7 by omega, Int.add_emod_right]

/-- C remainder semantics, for the record: `Int.tmod (0 - 1) 7 = -1` -/
example : Int.tmod (0 - 1) 7 = -1 := by decide

end SP.C13
