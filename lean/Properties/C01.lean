import Model
import Model.Elab
import Proofs.Closed
import Proofs.WFCheck
/-!
C01 — a resource is never double-booked.

Per leaf resource and slot: the seconds booked, summed over all tasks, never exceed the slot length,
and the portions can be laid out inside the slot without overlapping.  Proved (1) for every sequence
of the ledger operations on one slot, (2) for every state the scheduler model ends in, for every
well-formed project (any efforts incl. sub-slot, efficiencies, priorities, dependencies, ASAP/ALAP,
teams, alternatives, all resolutions).
-/
namespace SP.C01
open SP

/-- the operations the scheduler performs on one (resource, slot) -/
inductive LedgerOp where
  | reserve (off : Rat)              -- start-offset reservation
  | book (t : Nat)                   -- take what is left of the slot
  | release (t : Nat) (actual : Rat) -- finishing task keeps `actual` of what it booked
  deriving Repr

def step (G : Int) (s : Slot) : LedgerOp → Slot
  | .reserve off => s.reserve off
  | .book t => s.book G t
  | .release t a => s.release t a

/-- preconditions the scheduler establishes (offset inside the slot, non-negative remainder) -/
def Pre (G : Int) : LedgerOp → Prop
  | .reserve off => 0 ≤ off ∧ off ≤ (G : Rat)
  | .book _ => True
  | .release _ a => 0 ≤ a

theorem step_inv (G : Int) (s : Slot) (op : LedgerOp) (h : SlotInv G s) (hp : Pre G op) : SlotInv G (step G s op) := by
  cases op with
  | reserve off => exact reserve_inv G s off hp.1 hp.2 h
  | book t => exact book_inv G s t h
  | release t a => exact release_inv G s t a hp h

/-- every reachable slot state, for op sequences of any length -/
theorem ops_inv (G : Int) (hG : 0 < G) (ops : List LedgerOp) (hp : ∀ op ∈ ops, Pre G op) :
    SlotInv G (ops.foldl (step G) {}) := by
  have key : ∀ (ops : List LedgerOp) (s : Slot), SlotInv G s → (∀ op ∈ ops, Pre G op) → SlotInv G (ops.foldl (step G) s) := by
    intro ops
    induction ops with
    | nil => intro s hs _; exact hs
    | cons op ops ih =>
      intro s hs hpre
      exact ih _ (step_inv G s op hs (hpre op List.mem_cons_self)) (fun o ho => hpre o (List.mem_cons_of_mem _ ho))
  exact key ops {} (slotInv_empty G hG) hp

/-- the sum over all tasks never exceeds the slot length -/
theorem total_le_slot (G : Int) (s : Slot) (h : SlotInv G s) : usageSum s.usage ≤ (G : Rat) := by
  have := h.sum_le; have := h.used_le; grind

/-- the portions can be laid out without overlapping: portion `i` occupies
    `[Σ first i, Σ first i+1)`, which ends before portion `j > i` starts, all inside `[0, G]` -/
theorem layout (G : Int) (s : Slot) (h : SlotInv G s) (i j : Nat) (hij : i < j) (hj : j ≤ s.usage.length) :
    0 ≤ usageSum (s.usage.take i) ∧
    usageSum (s.usage.take (i + 1)) ≤ usageSum (s.usage.take j) ∧
    usageSum (s.usage.take j) ≤ (G : Rat) := layout_disjoint G s h i j hij hj

/-- **scheduler level**: after scheduling any well-formed project, every (resource, slot) of the
    ledger satisfies the slot invariant -/
theorem sched (e : Env) (wf : WF e) (r : Nat) (i : Int) : SlotInv e.G ((runScenario e).led.get r i) :=
  (runScenario_inv e wf).slot r i

theorem sched_total (e : Env) (wf : WF e) (r : Nat) (i : Int) :
    usageSum ((runScenario e).led.get r i).usage ≤ (e.G : Rat) :=
  total_le_slot e.G _ (sched e wf r i)

/-- the same for the environment elaborated from a project description, under the decidable check -/
theorem sched_elab (p : RawProj) (h : wfCheck (elaborate p).env = true) (r : Nat) (i : Int) :
    SlotInv p.G ((runScenario (elaborate p).env).led.get r i) :=
  sched (elaborate p).env (wfCheck_sound _ h) r i

/-- non-vacuity: three tasks of 20, 30 and 30 minutes on one resource (the witness of finding F1)
    form a well-formed project -/
def f1 : RawProj :=
  { G := 3600, start := 1736121600, stop := 1737331200,
    res := [{}],
    tasks := [{ effort := some (1/3), alloc := some ([0], []), prio := some 900 },
              { effort := some (1/2), alloc := some ([0], []), prio := some 800 },
              { effort := some (1/2), alloc := some ([0], []), prio := some 700 }] }

example : wfCheck (elaborate f1).env = true := by decide +kernel

/-- non-vacuity of the op-sequence theorem: the five-op sequence that broke the pinned code -/
example : ∀ op ∈ [LedgerOp.book 0, .release 0 1200, .book 1, .release 1 1800, .book 2], Pre 3600 op := by
  intro op h
  simp only [List.mem_cons, List.mem_nil_iff, or_false] at h
  rcases h with h | h | h | h | h <;> subst h <;> simp [Pre] <;> decide

end SP.C01
