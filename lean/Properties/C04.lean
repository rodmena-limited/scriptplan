import Model
import Proofs.Walk
import Proofs.GapLen
import Proofs.DepGlobal
import Proofs.DepAll
import Proofs.DepMile
import Proofs.Deadline
import Proofs.BackGlobal
import Proofs.WFCheck
/-!
C04 — dependencies and gaps are respected (forward mode end to end; backward mode end to end via the deadline computed
from the successors).

For a forward task without a start of its own, the bound `earliestStart` dominates every dependency's
(start | end) + gap — own, inherited from every enclosing container and created by `precedes` (all are
in `allDeps`) — and an inherited container start; the cursor and the in-slot offset reconstruct the
bound exactly, so a start reported as `time(cur) + offset` for any slot at or after the cursor is at or
after every dependency bound.
-/
namespace SP.C04
open SP

/-- the bound dominates every edge: (start | end of the predecessor) + gapduration -/
theorem bound_ge_every_dep (e : Env) (wf : WF e) (σ : St) (deps : List Dep) (base : Int) (dp : Dep) (hd : dp ∈ deps) (dt : Int)
    (hdt : (if dp.onstart then (σ.tst dp.target).start else (σ.tst dp.target).stop) = some dt) :
    dt + dp.gap ≤ earliestStart e σ deps base := earliestStart_ge_dep e wf.G_pos σ deps base dp hd dt hdt

/-- … and, for an edge with a `gaplength`, the instant at which that much working time of the project calendar has passed
    since the predecessor's date (`depDate`) -/
theorem bound_ge_every_depDate (e : Env) (σ : St) (deps : List Dep) (base : Int) (dp : Dep) (hd : dp ∈ deps) (dt : Int)
    (hdt : (if dp.onstart then (σ.tst dp.target).start else (σ.tst dp.target).stop) = some dt) :
    depDate e dp dt ≤ earliestStart e σ deps base := earliestStart_ge_depDate e σ deps base dp hd dt hdt

/-- a `gaplength` only moves the date on: never before the predecessor's date plus the gap duration (finding F54: the pinned
    code counted whole slots from the START of the slot the predecessor ended in, so the successor could start before it ended) -/
theorem gaplength_never_earlier (e : Env) (wf : WF e) (dp : Dep) (dt : Int) : dt + dp.gap ≤ depDate e dp dt :=
  depDate_ge e wf.G_pos dp dt

/-- … and the project start / an inherited container start -/
theorem bound_ge_base (e : Env) (σ : St) (deps : List Dep) (base : Int) : base ≤ earliestStart e σ deps base :=
  earliestStart_ge e σ deps base

/-- cursor + offset = bound, exactly -/
theorem cursor_reconstructs_bound (e : Env) (wf : WF e) (x : Int) (hx : e.start ≤ x) :
    ((e.time (cursorOf e x).1 : Int) : Rat) + (cursorOf e x).2 = (x : Rat) := cursorOf_exact e wf x hx

/-- the start written at the first booking (`markStart`: `time(cur) + offset`) is at or after the bound,
    in whichever slot at or after the cursor the first booking happens -/
theorem start_ge_bound (e : Env) (wf : WF e) (x : Int) (hx : e.start ≤ x) (cur : Int)
    (hc : (cursorOf e x).1 ≤ cur) : (x : Rat) ≤ ((e.time cur : Int) : Rat) + (cursorOf e x).2 :=
  slot_ge_bound e wf x hx cur hc

/-- combined: for every dependency of a forward task without own start, whichever slot `cur ≥ cursor` the
    first booking lands in, `time(cur) + offset ≥ (start | end of the predecessor) + gap` -/
theorem forward_start_respects_dep (e : Env) (wf : WF e) (σ : St) (t : Nat) (dp : Dep)
    (hd : dp ∈ (e.taskD t).allDeps) (dt : Int)
    (hdt : (if dp.onstart then (σ.tst dp.target).start else (σ.tst dp.target).stop) = some dt)
    (cur : Int) (hc : (cursorOf e (earliestStart e σ (e.taskD t).allDeps e.start)).1 ≤ cur) :
    ((dt + dp.gap : Int) : Rat) ≤
      ((e.time cur : Int) : Rat) + (cursorOf e (earliestStart e σ (e.taskD t).allDeps e.start)).2 := by
  have h1 := earliestStart_ge_dep e wf.G_pos σ (e.taskD t).allDeps e.start dp hd dt hdt
  have h2 := slot_ge_bound e wf _ (earliestStart_ge e σ (e.taskD t).allDeps e.start) cur hc
  have : ((dt + dp.gap : Int) : Rat) ≤ ((earliestStart e σ (e.taskD t).allDeps e.start : Int) : Rat) := by exact_mod_cast h1
  grind

/-- readiness: a forward task is picked only when every task in `allDeps` is scheduled -/
theorem ready_means_deps_scheduled (e : Env) (σ : St) (t : Nat) (hf : (σ.tst t).forward = true)
    (hr : ready e σ t = true) : ∀ dp ∈ (e.taskD t).allDeps, (σ.tst dp.target).scheduled = true :=
  ready_forward_deps e σ t hf hr

/-- **one task**: a successful `schedule()` of a forward effort task without a start of its own, started in any
    state, leaves it with a start at or after every predecessor's (start | end) + gap as they stand in that state -/
theorem task_start_respects_deps (e : Env) (wf : WF e) (σ : St) (t : Nat) (hel : FwdEff e t)
    (hb : t < σ.ts.size) (hf : (σ.tst t).forward = true) (hnd : (σ.tst t).done = false)
    (hok : (scheduleTask e σ t).2 = true) (dp : Dep) (hd : dp ∈ (e.taskD t).allDeps) (dt : Int)
    (hdt : dateOf σ dp = some dt) :
    ∃ v, ((scheduleTask e σ t).1.tst t).start = some v ∧ dt + dp.gap ≤ v := by
  obtain ⟨v, hv, hle⟩ := scheduleTask_start_ge e wf σ t hb hf hel.nostart hel.alloc hel.nomile hel.effort hnd hok
  exact ⟨v, hv, Int.le_trans (boundOf_ge_dep e wf σ t dp hd dt hdt) hle⟩

/-- **C04 for whole projects (forward mode)**: after scheduling ANY well-formed project, every forward effort task
    without a start of its own that is reported as scheduled starts at or after `(start | end) + gap` of every leaf
    predecessor — edges of its own, inherited from every enclosing container, and created by `precedes` on the other
    side (all are in `allDeps`) — and every such predecessor is itself scheduled.  The dates compared are those of
    the final schedule. -/
theorem forward_deps_respected (e : Env) (wf : WF e) (t : Nat) (hel : FwdEff e t)
    (hs : ((runScenario e).tst t).scheduled = true) (hf : ((runScenario e).tst t).forward = true)
    (dp : Dep) (hd : dp ∈ (e.taskD t).allDeps) (hx : (e.taskD dp.target).leaf = true) :
    ((runScenario e).tst dp.target).scheduled = true ∧
    ∀ dt v, dateOf (runScenario e) dp = some dt → ((runScenario e).tst t).start = some v → dt + dp.gap ≤ v := by
  obtain ⟨h1, h2⟩ := runScenario_depsOK e wf t hel
    (runScenario_scheduled_done e t ⟨hel.leaf, hel.effort, hel.nomile⟩ hs) hf dp hd hx
  exact ⟨h1, fun dt v hdt hv => Int.le_trans (depDate_ge e wf.G_pos dp dt) (h2 dt v hdt hv)⟩

/-- the same for the environment elaborated from a project description, under the decidable check -/
theorem forward_deps_respected_elab (p : RawProj) (h : wfCheck (elaborate p).env = true) (t : Nat)
    (hel : FwdEff (elaborate p).env t)
    (hs : ((runScenario (elaborate p).env).tst t).scheduled = true)
    (hf : ((runScenario (elaborate p).env).tst t).forward = true)
    (dp : Dep) (hd : dp ∈ ((elaborate p).env.taskD t).allDeps) (hx : ((elaborate p).env.taskD dp.target).leaf = true) :
    ((runScenario (elaborate p).env).tst dp.target).scheduled = true ∧
    ∀ dt v, dateOf (runScenario (elaborate p).env) dp = some dt →
      ((runScenario (elaborate p).env).tst t).start = some v → dt + dp.gap ≤ v :=
  forward_deps_respected _ (wfCheck_sound _ h) t hel hs hf dp hd hx

/-- **C04 for whole projects (forward mode), every kind of predecessor** (`Proofs/DepAll`): the same for predecessors that
    are containers — `depends !c0`, an edge inherited from an enclosing container onto a container, `precedes` from a
    container: the successor starts at or after the container's end (its start, for an on-start edge) plus the gap, the
    container's dates being those of the final schedule (a container marked scheduled keeps its dates: the roll-up skips
    it and `finishScenario` recomputes the same minimum and maximum).  Needs the task tree to be well-formed (`Tree`:
    children are declared after their parents — what the parser produces, checked by `treeCheck`). -/
theorem forward_deps_respected_all (e : Env) (wf : WF e) (tr : Tree e) (t : Nat) (hel : FwdEff e t)
    (hs : ((runScenario e).tst t).scheduled = true) (hf : ((runScenario e).tst t).forward = true)
    (dp : Dep) (hd : dp ∈ (e.taskD t).allDeps) :
    ((runScenario e).tst dp.target).scheduled = true ∧
    ∀ dt v, dateOf (runScenario e) dp = some dt → ((runScenario e).tst t).start = some v → dt + dp.gap ≤ v := by
  obtain ⟨h1, h2⟩ := runScenario_depsOKAll e wf tr t hel
    (runScenario_scheduled_done e t ⟨hel.leaf, hel.effort, hel.nomile⟩ hs) hf dp hd
  exact ⟨h1, fun dt v hdt hv => Int.le_trans (depDate_ge e wf.G_pos dp dt) (h2 dt v hdt hv)⟩

/-- **… and working-time gaps** (`gaplength`): the same with the full date the edge contributes — for an edge with a
    `gaplength` (and no gap duration) the instant at which that much working time of the project calendar has passed since
    the predecessor's end (start, for an on-start edge), `depDate`; for every other edge `(start | end) + gap` as above.
    `gaplength_never_earlier` relates the two: a working-time gap never lets the task start before the predecessor's date. -/
theorem forward_deps_respected_gaplength (e : Env) (wf : WF e) (tr : Tree e) (t : Nat) (hel : FwdEff e t)
    (hs : ((runScenario e).tst t).scheduled = true) (hf : ((runScenario e).tst t).forward = true)
    (dp : Dep) (hd : dp ∈ (e.taskD t).allDeps) :
    ((runScenario e).tst dp.target).scheduled = true ∧
    ∀ dt v, dateOf (runScenario e) dp = some dt → ((runScenario e).tst t).start = some v → depDate e dp dt ≤ v :=
  runScenario_depsOKAll e wf tr t hel
    (runScenario_scheduled_done e t ⟨hel.leaf, hel.effort, hel.nomile⟩ hs) hf dp hd

/-- what `depDate` is for an edge with a working-time gap of `n > 0` seconds and no gap duration: the walk over the project
    calendar from the slot the predecessor's date lies in -/
theorem depDate_gaplength (e : Env) (dp : Dep) (dt : Int) (hn : dp.glen > 0) (hg : dp.gap = 0) :
    depDate e dp dt = lenWalk e (e.size.toNat + 3) dp.glen (e.idx dt) dt := by
  unfold depDate; simp [hn, hg]

/-- **a working-time gap is measured exactly** (`Proofs/GapLen`): for an edge with `gaplength n` (and no gap duration), a
    predecessor date `dt` at or after the project start, and a scoreboard that covers the horizon (`C11.horizon_covered`: true of
    every elaborated project), the date the edge contributes, `out = depDate e dp dt`, is such that for some number `k` of slots
    from the slot `dt` lies in: either the project working time in `[dt, out)` within those slots is EXACTLY `n` seconds and
    `out` lies at or before the end of the last of them — no working slot skipped, none counted twice — or the horizon was
    reached with less than `n` seconds of working time left in the project -/
theorem gaplength_exact (e : Env) (wf : WF e) (dp : Dep) (dt : Int) (hn : dp.glen > 0) (hg : dp.gap = 0)
    (hdt : e.start ≤ dt) (hsz : e.upper ≤ e.size + 1) :
    ∃ k : Nat,
      (worked e dt (depDate e dp dt) k (e.idx dt) = dp.glen ∧ depDate e dp dt ≤ e.time (e.idx dt + k)) ∨
      (worked e dt (depDate e dp dt) k (e.idx dt) < dp.glen ∧ e.upper < e.idx dt + k) := by
  rw [depDate_gaplength e dp dt hn hg]
  have hfl := idx_floor e wf.G_pos dt hdt
  have : 0 ≤ e.idx dt := (Board.mk e.start e.stop e.G).rawIdx_nonneg wf.G_pos (t := dt) hdt
  apply lenWalk_exact e wf.G_pos _ dp.glen (e.idx dt) dt hfl.1 (Int.le_of_lt hfl.2) hn
  have h2 : ((e.size.toNat + 3 : Nat) : Int) = (e.size.toNat : Int) + 3 := by push_cast; rfl
  rw [h2]
  have := Int.self_le_toNat e.size
  omega

/-- what `worked` measures: the overlap of `[a, b)` with each working slot of the project calendar among the `n` slots from `i` on -/
theorem worked_step (e : Env) (a b : Int) (n : Nat) (i : Int) :
    worked e a b (n + 1) i =
      (if e.projWork i then max 0 (min b (e.time (i + 1)) - max a (e.time i)) else 0) + worked e a b n (i + 1) := rfl

/-- one step of that walk, spelled out: in a working slot of the project calendar the time from the date to the end of the slot
    counts; if it covers what is left of the gap, the bound is the date plus what is left; otherwise the walk goes on from
    the start of the next slot with the rest; a non-working slot is passed over; at the horizon the walk stops -/
theorem lenWalk_step (e : Env) (f : Nat) (rem i dt : Int) :
    lenWalk e (f + 1) rem i dt =
      if rem > 0 && i ≤ e.upper then
        if e.projWork i then
          if e.G - (dt - e.time i) ≥ rem then dt + rem
          else lenWalk e f (rem - (e.G - (dt - e.time i))) (i + 1) (e.time (i + 1))
        else lenWalk e f rem (i + 1) (e.time (i + 1))
      else dt := rfl

theorem forward_deps_respected_all_elab (p : RawProj) (h : wfCheck (elaborate p).env = true)
    (htr : treeCheck (elaborate p).env = true) (t : Nat) (hel : FwdEff (elaborate p).env t)
    (hs : ((runScenario (elaborate p).env).tst t).scheduled = true)
    (hf : ((runScenario (elaborate p).env).tst t).forward = true)
    (dp : Dep) (hd : dp ∈ ((elaborate p).env.taskD t).allDeps) :
    ((runScenario (elaborate p).env).tst dp.target).scheduled = true ∧
    ∀ dt v, dateOf (runScenario (elaborate p).env) dp = some dt →
      ((runScenario (elaborate p).env).tst t).start = some v → dt + dp.gap ≤ v :=
  forward_deps_respected_all _ (wfCheck_sound _ h) (treeCheck_sound _ htr) t hel hs hf dp hd

/-- **C04 for whole projects (forward mode), milestones as dependents** (`Proofs/DepMile`): a forward milestone — or a leaf
    without effort — without a start of its own that the scheduling loop placed (`done`; a milestone the pre-pass dated from a
    user-given end is pinned, outside the property) lies at or after `(start | end) + gap` of every predecessor, leaf or
    container, in the final schedule; effort tasks as in `forward_deps_respected_all`. -/
theorem forward_deps_respected_milestones (e : Env) (wf : WF e) (tr : Tree e) (t : Nat) (hel : FwdMile e t)
    (hd : ((runScenario e).tst t).done = true) (hf : ((runScenario e).tst t).forward = true)
    (dp : Dep) (hdp : dp ∈ (e.taskD t).allDeps) :
    ((runScenario e).tst dp.target).scheduled = true ∧
    ∀ dt v, dateOf (runScenario e) dp = some dt → ((runScenario e).tst t).start = some v → depDate e dp dt ≤ v ∧ dt + dp.gap ≤ v := by
  obtain ⟨h1, h2⟩ := runScenario_depsOKAny e wf tr t (Or.inr hel) hd hf dp hdp
  exact ⟨h1, fun dt v hdt hv => ⟨h2 dt v hdt hv, Int.le_trans (depDate_ge e wf.G_pos dp dt) (h2 dt v hdt hv)⟩⟩

/-- a milestone the loop placed is dated exactly at its dependency bound (start = end) -/
theorem milestone_placed_at_bound (e : Env) (wf : WF e) (σ : St) (t : Nat) (hb : t < σ.ts.size)
    (hf : (σ.tst t).forward = true) (hel : FwdMile e t) (hnd : (σ.tst t).done = false)
    (hok : (scheduleTask e σ t).2 = true) :
    ∃ v, ((scheduleTask e σ t).1.tst t).start = some v ∧ boundOf e σ t ≤ v :=
  scheduleTask_start_ge_mile e wf σ t hb hf hel hnd hok

/-- non-vacuity: b (1 h) depends on a (20 min) with a gap of 90 min, one resource: a well-formed project in which
    b is a forward effort task with one edge to a leaf -/
def gapProj : RawProj :=
  { G := 3600, start := 1736121600, stop := 1737331200,
    res := [{}],
    tasks := [{ effort := some (1/3), alloc := some ([0], []) },
              { effort := some 1, alloc := some ([0], []), deps := [{ target := 0, gap := 5400 }] }] }

example : wfCheck (elaborate gapProj).env = true := by decide +kernel
example : FwdEff (elaborate gapProj).env 1 :=
  ⟨by decide +kernel, by decide +kernel, by decide +kernel, by decide +kernel, by decide +kernel⟩
example : ((elaborate gapProj).env.taskD 1).allDeps.length = 1 ∧
    ∀ dp ∈ ((elaborate gapProj).env.taskD 1).allDeps, ((elaborate gapProj).env.taskD dp.target).leaf = true := by
  decide +kernel

/-- non-vacuity and the witness of finding F54: a (80 min, resource 0) ends at 10:20 on Monday 2025-01-06 (the driver's run of this project: start of b = 10:50); b (2 h, resource 1)
    depends on it with `gaplength 30min`; the bound of b is 10:50 — thirty minutes of project working time after 10:20 —
    not 10:00, where the pinned code put it -/
def lenProj : RawProj :=
  { G := 3600, start := 1736121600, stop := 1737331200,
    res := [{}, {}],
    tasks := [{ effort := some (4/3), alloc := some ([0], []) },
              { effort := some 2, alloc := some ([1], []), deps := [{ target := 0, glen := 1800, hasOpts := true }] }] }

example : wfCheck (elaborate lenProj).env = true := by decide +kernel

/-- (dates in the elaborated environment are relative to the project start) the bound of b: 10:20 + 30 min of working time -/
example : depDate (elaborate lenProj).env { target := 0, glen := 1800, hasOpts := true } (10 * 3600 + 1200) = 10 * 3600 + 3000 := by
  decide +kernel
/-- … across the end of the working day: `gaplength 2h` after 16:20 is 10:20 the next morning -/
example : depDate (elaborate lenProj).env { target := 0, glen := 7200, hasOpts := true } (16 * 3600 + 1200) = 34 * 3600 + 1200 := by
  decide +kernel
/-- … and a gap that ends exactly with the working day gives 17:00, not the next morning -/
example : depDate (elaborate lenProj).env { target := 0, glen := 3600, hasOpts := true } (16 * 3600) = 17 * 3600 := by
  decide +kernel

/-- **one backward task**: a successful `schedule()` of an effort task in backward mode (ALAP), started in any state,
    leaves it with an end at or before its deadline — its own `end`, or else the deadline computed from its successors -/
theorem task_end_respects_deadline (e : Env) (wf : WF e) (σ : St) (t : Nat) (hb : t < σ.ts.size)
    (hf : (σ.tst t).forward = false) (hpos : 0 < (e.taskD t).effort) (hnd : (σ.tst t).done = false)
    (hok : (scheduleTask e σ t).2 = true) :
    ∃ v, ((scheduleTask e σ t).1.tst t).stop = some v ∧ v ≤ deadlineOf e σ t :=
  scheduleTask_stop_le e wf σ t hb hf hpos hnd hok

/-- … and that computed deadline is at or before the start of every scheduled successor minus the largest gap the
    successor asks towards the task or one of its enclosing containers, and at or before the project end -/
theorem deadline_respects_successors (e : Env) (σ : St) (t s : Nat) (hs : s ∈ successors e t) (ss : Int)
    (hss : (σ.tst s).start = some ss) : latestEnd e σ t ≤ ss - succGap e t s ∧ latestEnd e σ t ≤ e.stop :=
  ⟨latestEnd_le_succ e σ t s hs ss hss, latestEnd_le_stop e σ t⟩

/-- combined: a backward effort task without an end of its own ends at or before `start(s) − gap` of every successor
    `s` that is scheduled when the task is placed -/
theorem backward_end_respects_successor (e : Env) (wf : WF e) (σ : St) (t s : Nat) (hb : t < σ.ts.size)
    (hf : (σ.tst t).forward = false) (hpos : 0 < (e.taskD t).effort) (hnd : (σ.tst t).done = false)
    (hns : (σ.tst t).stop = none) (hok : (scheduleTask e σ t).2 = true)
    (hs : s ∈ successors e t) (ss : Int) (hss : (σ.tst s).start = some ss) :
    ∃ v, ((scheduleTask e σ t).1.tst t).stop = some v ∧ v + succGap e t s ≤ ss := by
  obtain ⟨v, hv, hle⟩ := scheduleTask_stop_le e wf σ t hb hf hpos hnd hok
  have hd : deadlineOf e σ t = latestEnd e σ t := by unfold deadlineOf; rw [hns]
  have := latestEnd_le_succ e σ t s hs ss hss
  exact ⟨v, hv, by omega⟩

/-- **C04 for whole projects (backward mode)**: after scheduling ANY well-formed project, every backward (ALAP) effort
    task that is reported as scheduled and whose deadline comes from its successors (no end of its own, none inherited
    from a container: `prepare` left it without an end) ends at or before `start(s) − gap` of every successor `s` — the
    leaves whose own or inherited finish-to-start edges name the task or one of its enclosing containers, `gap` being the
    largest gap such an edge asks for — in the FINAL schedule; and every such successor is scheduled. -/
theorem backward_deps_respected (e : Env) (wf : WF e) (t : Nat) (hel : EffLeaf e t)
    (hns : ((prepare e (initState e)).tst t).stop = none)
    (hs : ((runScenario e).tst t).scheduled = true) (hfw : ((runScenario e).tst t).forward = false)
    (s : Nat) (hsucc : s ∈ successors e t) :
    ((runScenario e).tst s).scheduled = true ∧
    ∀ ss v, ((runScenario e).tst s).start = some ss → ((runScenario e).tst t).stop = some v → v + succGap e t s ≤ ss :=
  runScenario_backOK e wf t hel hns (runScenario_scheduled_done e t hel hs) hfw s hsucc

/-- backward mode: the deadline of a predecessor is at most (successor start − the largest gap the
    successor asks towards it or an enclosing container), for every scheduled successor -/
theorem latestEnd_le_project_end (e : Env) (σ : St) (t : Nat) : latestEnd e σ t ≤ e.stop :=
  latestEnd_le_stop e σ t

end SP.C04
