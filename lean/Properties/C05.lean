import Model
import Proofs.SchedInv
import Proofs.WFCheck
import Proofs.Counted
import Proofs.Shift
/-!
C05 — daily and weekly limits are never exceeded.

Counter level: every limit counter ends at or below its limit (an `inc` only ever follows an `ok` on
the same counter), for the whole horizon (counters are created on demand, so there is no index beyond
which the limit stops applying).  Period level: the daily (weekly) period index of a slot identifies its
calendar day (its Monday-based ISO week) — a true period is never split over two counters nor are two
periods merged into one.
-/
namespace SP.C05
open SP

/-- every counter of every limit, in every period, is within the limit after scheduling -/
theorem counter_le (e : Env) (wf : WF e) (lid : Nat) (k : Int) :
    (runScenario e).cnt.get lid k ≤ max 0 (e.limitD lid).value :=
  (runScenario_inv e wf).cnt lid k

/-- no booking happens while a counter sits at its limit: `ok` is `count < value` -/
theorem ok_iff (e : Env) (σ : St) (lid : Nat) (i : Int) (hk : 0 ≤ e.period (e.limitD lid) i)
    (hr : (e.limitD lid).res = none) :
    limitOk e σ lid i none = decide (σ.cnt.get lid (e.period (e.limitD lid) i) < (e.limitD lid).value) := by
  unfold limitOk
  simp [hr]
  intro h; omega

/-- daily period = calendar day: two slots share a counter iff they lie on the same calendar day -/
theorem day_period (c : CalEnv) (i j : Int) :
    dayIdxAt c i = dayIdxAt c j ↔ dayOf (c.time i) = dayOf (c.time j) := by
  unfold dayIdxAt; omega

theorem monday_mod (d : Int) : (mondayOf d + 3) % 7 = 0 := by
  unfold mondayOf weekdayOfDay; omega

/-- weekly period = Monday-based week: two slots share a counter iff their days have the same Monday -/
theorem week_period (c : CalEnv) (i j : Int) :
    weekIdxAt c i = weekIdxAt c j ↔ mondayOf (dayOf (c.time i)) = mondayOf (dayOf (c.time j)) := by
  unfold weekIdxAt
  have h1 := monday_mod (dayOf (c.time i))
  have h2 := monday_mod (dayOf (c.time j))
  have h3 := monday_mod (dayOf c.start)
  omega

/-- the Monday of a day is within that day's week: at most six days earlier -/
theorem monday_range (d : Int) : mondayOf d ≤ d ∧ d < mondayOf d + 7 := by
  unfold mondayOf weekdayOfDay; omega

/-- same Monday ⇒ same ISO (year, week): the ISO week is a function of the week's Monday -/
theorem iso_week_of_monday (d1 d2 : Int) (h : mondayOf d1 = mondayOf d2) : isoYearWeek d1 = isoYearWeek d2 := by
  unfold isoYearWeek; rw [h]

/-- … and conversely: equal ISO (year, week) ⇒ same Monday -/
theorem monday_of_iso_week (d1 d2 : Int) (h : isoYearWeek d1 = isoYearWeek d2) : mondayOf d1 = mondayOf d2 := by
  unfold isoYearWeek at h
  simp only [Prod.mk.injEq] at h
  obtain ⟨hy, hw⟩ := h
  rw [hy] at hw
  have h1 := monday_mod d1
  have h2 := monday_mod d2
  omega

/-- shifting a slot by whole weeks shifts its weekly period by the same number, whatever the year
    (the pinned ISO-number formula failed this across 53-week years) -/
theorem week_shift (c : CalEnv) (i : Int) (k : Int) (hG : 0 < c.G) (hdiv : (604800 * k) % c.G = 0) :
    weekIdxAt c (i + 604800 * k / c.G) = weekIdxAt c i + k := by
  -- the slot moves by `7 * k` days, and so does its Monday
  have e1 : c.time (i + 604800 * k / c.G) = c.time i + 604800 * k := by
    unfold CalEnv.time
    rw [Int.add_mul, Int.ediv_mul_cancel (Int.dvd_of_emod_eq_zero hdiv), Int.add_assoc]
  unfold weekIdxAt
  rw [e1, weeks_eq_days, dayOf_add_days, mondayOf_add_weeks]
  omega

/-- which limits count a booking of resource `r` by task `t`: the unfiltered limits of `r` and of every enclosing resource
    group, and the limits of `t` and of every enclosing task that carry no resource filter or name `r` -/
theorem covers_iff (e : Env) (lid r t : Nat) :
    covers e lid r t ↔
      (lid ∈ resLimitIds e r ∧ (e.limitD lid).res = none) ∨
      (lid ∈ taskLimitIds e t ∧ ((e.limitD lid).res = none ∨ (e.limitD lid).res = some r)) := by
  unfold covers bookPairs applies
  constructor
  · rintro ⟨q, hq, rfl, ha⟩
    simp only [List.mem_append, List.mem_map] at hq
    rcases hq with ⟨l, hl, rfl⟩ | ⟨l, hl, rfl⟩
    · left
      refine ⟨hl, ?_⟩
      cases hr : (e.limitD l).res with
      | none => rfl
      | some x => simp [hr] at ha
    · right
      refine ⟨hl, ?_⟩
      cases hr : (e.limitD l).res with
      | none => exact Or.inl rfl
      | some x =>
        right
        simp only [hr, Option.isSome_some, Bool.true_and, Bool.not_eq_true', bne_eq_false_iff_eq] at ha
        exact ha
  · rintro (⟨hl, hr⟩ | ⟨hl, hr⟩)
    · exact ⟨(lid, none), by simp only [List.mem_append, List.mem_map]; exact Or.inl ⟨lid, hl, rfl⟩, rfl, by simp [hr]⟩
    · refine ⟨(lid, some r), by simp only [List.mem_append, List.mem_map]; exact Or.inr ⟨lid, hl, rfl⟩, rfl, ?_⟩
      rcases hr with hr | hr <;> simp [hr]

/-- **C05 at the level of the ledger** (`Proofs/Counted`, by the induction principle `runScenario_closed` over every state
    the scheduler reaches): after scheduling ANY well-formed project, for every limit and every one of its periods (calendar
    day or Monday-based week), the ledger entries (resource, slot, task) that the limit covers in that period — however
    they are listed, without repetition — number at most `value` slots … -/
theorem booked_entries_le_limit (e : Env) (wf : WF e) (lid : Nat) (p : Int) (L : List Trip) (hp : 0 ≤ p)
    (hv : Valid e (runScenario e) lid p L) : (L.length : Int) ≤ max 0 (e.limitD lid).value :=
  runScenario_entries_le_limit e wf lid p L hp hv

/-- … and the seconds they record add up to at most `value x G`: the booked working time of a limited resource, of all
    members of a limited group together, or of all tasks below a limited task, in any day / week of the whole horizon,
    never exceeds the limit -/
theorem booked_seconds_le_limit (e : Env) (wf : WF e) (lid : Nat) (p : Int) (L : List Trip) (hp : 0 ≤ p)
    (hv : Valid e (runScenario e) lid p L) :
    sumTrips (runScenario e) L ≤ (max 0 (e.limitD lid).value : Int) * (e.G : Rat) :=
  runScenario_secs_le_limit e wf lid p L hp hv

/-- the same for the environment elaborated from a project description, under the decidable check -/
theorem booked_seconds_le_limit_elab (p : RawProj) (h : wfCheck (elaborate p).env = true) (lid : Nat) (k : Int)
    (L : List Trip) (hk : 0 ≤ k) (hv : Valid (elaborate p).env (runScenario (elaborate p).env) lid k L) :
    sumTrips (runScenario (elaborate p).env) L
      ≤ (max 0 ((elaborate p).env.limitD lid).value : Int) * ((elaborate p).env.G : Rat) :=
  booked_seconds_le_limit _ (wfCheck_sound _ h) lid k L hk hv

/-- every counter is at least the number of covered entries, in every reachable final state: no booking goes uncounted -/
theorem no_booking_uncounted (e : Env) (wf : WF e) : Counted e (runScenario e) := runScenario_counted e wf

/-- non-vacuity: one resource with `dailymax 2h`, one task of 5 h — the limit covers the task's bookings -/
def lim2 : RawProj :=
  { G := 3600, start := 1736121600, stop := 1737331200,
    res := [{ limits := [{ weekly := false, value := 2 }] }],
    tasks := [{ effort := some 5, alloc := some ([0], []) }] }

example : wfCheck (elaborate lim2).env = true := by decide +kernel
example : covers (elaborate lim2).env 0 0 0 :=
  (covers_iff _ 0 0 0).mpr (Or.inl ⟨by decide +kernel, by decide +kernel⟩)

example : weekIdxAt { start := 1798416000, G := 3600, size := 1000, gvac := [], gleaves := [] } 168 = 1 := by decide

end SP.C05
