import Proofs.Blank
import Proofs.Cli
import Proofs.CliClean
import Proofs.CliConc
import Proofs.CliContract
import Proofs.Hidden
import Proofs.Inherit
import Proofs.IntruderAttr
import Proofs.Ledger
import Proofs.ListLemmas
import Proofs.Aligned
import Proofs.Macro
import Proofs.Order
import Proofs.Report
import Proofs.Resolve
import Proofs.Round
import Proofs.Scan
import Proofs.Scenarios
import Proofs.Shift
import Proofs.Slots
import Proofs.SchedInv
import Proofs.Passes
import Proofs.WFCheck
import Proofs.Walk
import Proofs.Fuel
import Proofs.GapLen
import Proofs.Team
import Proofs.Closed
import Proofs.WalkInd
import Proofs.Effort
import Proofs.Frame
import Proofs.Counted
import Proofs.DepStart
import Proofs.Deadline
import Proofs.Loop
import Proofs.Containers
import Proofs.EffortGlobal
import Proofs.BackGlobal
import Proofs.DepGlobal
import Proofs.DepAll
import Proofs.DepMile
import Proofs.FrameWalk
import Proofs.FrameBack
import Proofs.Frozen
import Proofs.Intruder
import Proofs.OneSet
import Proofs.EffortAlt
import Proofs.FrameAlt
import Proofs.Ordered
import Proofs.TeamAll
import Proofs.Solid
import Proofs.TeamLimits
import Proofs.Visits
import Proofs.NoIdle
import Proofs.Horizon
import Proofs.NoIdleGlobal
import Proofs.EarliestFit
import Proofs.NoIdleAlt
import Proofs.TeamEffort
import Proofs.FrameTeam
import Proofs.FrameTeamBack
import Proofs.TeamOrdered
import Proofs.TeamSame
import Proofs.TeamFit
import Proofs.AltFit
import Proofs.VisitsBack
import Proofs.NoIdleBack
import Proofs.NoIdleBackAlt
import Proofs.TeamBack
/-!
The proof modules in import order.  Up to `Proofs.Slots` come the areas that do not depend on one another (Cli, hidden state,
calendars, macros, reports, …) and the general lemmas; from `Proofs.SchedInv` on they are the layers of the scheduler proofs, each
built on the ones before it (DESIGN.md, Appendix B).
-/
