import Proofs.EffortGlobal
import Proofs.OneSet
/-!
C03, the effort clause, for tasks with an alternative: whichever single resource `_selectBestResources` chose at the first
slot, the task holds on it exactly its effort.
-/
namespace SP

/-- an effort task (no milestone) with one primary and one alternative resource -/
structure EligAlt (e : Env) (t r1 r2 : Nat) : Prop where
  leaf : (e.taskD t).leaf = true
  alloc : (e.taskD t).hasAlloc = true
  nomile : (e.taskD t).milestone = false
  effort : 0 < (e.taskD t).effort
  prim : (e.taskD t).alloc = [r1]
  alt : (e.taskD t).alt = [r2]

theorem selectBest_alt (e : Env) (σ : St) (r1 r2 : Nat) (effort : Rat) (c : Int) :
    selectBest e σ [r1] [r2] effort c = [r1] ∨ selectBest e σ [r1] [r2] effort c = [r2] := by
  rcases selectBest_cases e σ [r1] [r2] effort c with h | h | h
  · exfalso
    unfold selectBest at h
    simp at h
    split at h <;> (try split at h) <;> simp at h
  · exact Or.inl h
  · exact Or.inr h

/-- what holds of every such task that is `done`: on one of its two candidates it holds exactly its effort -/
def DoneExactAlt (e : Env) (σ : St) : Prop :=
  ∀ t r1 r2, EligAlt e t r1 r2 → (σ.tst t).done = true → ∃ r vis, (r = r1 ∨ r = r2) ∧ Exact e σ t r vis

structure AltInv (e : Env) (σ : St) (tasks : List Nat) : Prop where
  inv : Inv e σ
  nodup : tasks.Nodup
  leaf : ∀ t ∈ tasks, (e.taskD t).leaf = true
  pending : ∀ t ∈ tasks, (σ.tst t).done = false ∧ ∀ r i, usageOf (σ.led.get r i).usage t = none
  exact : DoneExactAlt e σ

theorem altInv_step (e : Env) (wf : WF e) (σ : St) (tasks : List Nat) (t0 : Nat) (h : AltInv e σ tasks)
    (hmem : t0 ∈ tasks) : AltInv e (updateContainers e (scheduleTask e σ t0).1) (tasks.erase t0) := by
  obtain ⟨hinv', hnd', hlf', -, hrest⟩ := round_worklist e wf σ tasks t0 h.inv h.nodup h.leaf hmem
  refine ⟨hinv', hnd', hlf', fun t ht => ?_, fun t r1 r2 hel hd => ?_⟩
  · obtain ⟨htm, hts, hse⟩ := hrest t ht
    rw [hts]
    exact ⟨(h.pending t htm).1, fun r i => (hse r i).trans ((h.pending t htm).2 r i)⟩
  · by_cases heq : t = t0
    · subst heq
      rw [updateContainers_leaf e _ t hel.leaf] at hd
      obtain ⟨hnd, hclean⟩ := h.pending t hmem
      -- whichever of the two the first slot selects, the walk stays on it
      obtain ⟨r, hr, hs⟩ : ∃ r, (r = r1 ∨ r = r2) ∧
          selectBest e (walkStart e σ t).1 [r1] [r2] (e.taskD t).effort (walkStart e σ t).2.cur = [r] := by
        rcases selectBest_alt e (walkStart e σ t).1 r1 r2 (e.taskD t).effort (walkStart e σ t).2.cur with hs | hs
        · exact ⟨r1, Or.inl rfl, hs⟩
        · exact ⟨r2, Or.inr rfl, hs⟩
      obtain ⟨vis, hv⟩ := scheduleTask_exact_sel e wf σ t r h.inv hel.leaf hel.alloc hel.nomile hel.effort
        (by rw [hel.prim, hel.alt]; exact hs) hnd (hclean r) (scheduleTask_done e σ t hnd hd)
      exact ⟨r, vis, hr, Exact.of_led (updateContainers_led e _) hv⟩
    · obtain ⟨hts, hse⟩ := round_other e σ t0 t hel.leaf heq
      rw [hts] at hd
      obtain ⟨r, vis, hr, hv⟩ := h.exact t r1 r2 hel hd
      exact ⟨r, vis, hr, Exact.of_same hse hv⟩

/-- **C03, effort, with an alternative, end to end.**  After scheduling any well-formed project, every completed effort task
    with one primary and one alternative resource holds, on ONE of the two, entries in distinct slots (and nowhere else on it)
    whose seconds weighted by that resource's efficiency add up to exactly the requested effort. -/
theorem runScenario_effort_exact_alt (e : Env) (wf : WF e) : DoneExactAlt e (runScenario e) := by
  obtain ⟨rest, -, h⟩ := scenario_induct (I := fun tasks _ σ => AltInv e σ tasks)
    (fun tasks _ σ t0 h hf => altInv_step e wf σ tasks t0 h (List.mem_of_find?_eq_some hf))
    (fun _ _ σ _ h => ⟨Inv.of_eq (σ := σ) rfl rfl h.inv, h.nodup, h.leaf, h.pending, h.exact⟩)
    ⟨loopStart_inv e wf, todoOf_nodup e _, todoOf_leaf e _,
     fun t ht => ⟨(todoOf_loopStart e t ht).2.2.2.1, (todoOf_loopStart e t ht).2.2.2.2⟩,
     fun t _ _ _ hd => absurd hd (by rw [loopStart_done]; exact Bool.noConfusion)⟩
  intro t r1 r2 hel hdone
  unfold runScenario at hdone ⊢
  rw [finishScenario_leafT e _ t hel.leaf] at hdone
  obtain ⟨r, vis, hr, hv⟩ := h.exact t r1 r2 hel hdone
  exact ⟨r, vis, hr, Exact.of_led (finishScenario_led e _) hv⟩

end SP
