import Proofs.FrameBack
import Proofs.EffortAlt
/-!
C06 for tasks with an alternative: whichever single resource `_selectBestResources` chose at the first slot, the task is
framed on it (both modes).
-/
namespace SP

theorem EligAlt.toIn {e : Env} {t r1 r2 : Nat} (h : EligAlt e t r1 r2) : EligIn e t (fun r => r = r1 ∨ r = r2) :=
  ⟨h.leaf, h.alloc, h.nomile, h.effort, fun σ c => by
    rw [h.prim, h.alt]
    rcases selectBest_alt e σ r1 r2 (e.taskD t).effort c with hs | hs
    · exact ⟨r1, Or.inl rfl, hs⟩
    · exact ⟨r2, Or.inr rfl, hs⟩⟩

/-- what holds of every completed task with one primary and one alternative resource: it is framed on one of the two -/
def DoneFramedAlt (e : Env) (σ : St) : Prop :=
  ∀ t r1 r2, EligAlt e t r1 r2 → (σ.tst t).done = true → ∃ r, (r = r1 ∨ r = r2) ∧ Framed e σ t r

structure FrInvAlt (e : Env) (σ : St) (tasks : List Nat) : Prop where
  inv : Inv e σ
  nodup : tasks.Nodup
  leaf : ∀ t ∈ tasks, (e.taskD t).leaf = true
  inrange : ∀ t ∈ tasks, t < σ.ts.size
  pending : ∀ t ∈ tasks, (σ.tst t).done = false ∧ ∀ r i, usageOf (σ.led.get r i).usage t = none
  ok : DoneFramedAlt e σ

/-- **C06 with an alternative, both modes, end to end**: after scheduling any well-formed project, every completed effort
    task with one primary and one alternative resource is framed on ONE of the two. -/
theorem runScenario_framed_alt (e : Env) (wf : WF e) : DoneFramedAlt e (runScenario e) := by
  intro t r1 r2 hel hd
  obtain ⟨r, hr, hf, -⟩ := runScenario_single e wf t _ hel.toIn hd
  exact ⟨r, hr, hf⟩

end SP
