import Proofs.Effort
/-!
Frame lemmas: what the scheduling of one task leaves untouched — the ledger entries of every other task (`SameEntries`),
the attributes of every other task and its own flags (`TsFrame`).  Both are relations between the state before and after
that hold of every primitive change `scheduleTask` makes (`MoveRel`) and therefore of each of its parts (`*_rel`).
`scheduleTask` seen from outside (`scheduleTask_cases`): the state it returns with the flag it returns; `scheduleSlot` of an
effort task likewise (`scheduleSlot_effort_true`, `scheduleSlot_effort_false`).
-/
namespace SP

/-- `σ'` records for task `t` exactly what `σ` records, in every slot of every resource -/
def SameEntries (σ σ' : St) (t : Nat) : Prop :=
  ∀ r i, usageOf (σ'.led.get r i).usage t = usageOf (σ.led.get r i).usage t

theorem SameEntries.refl (σ : St) (t : Nat) : SameEntries σ σ t := fun _ _ => rfl

theorem SameEntries.trans {σ σ' σ'' : St} {t : Nat} (h1 : SameEntries σ σ' t) (h2 : SameEntries σ' σ'' t) :
    SameEntries σ σ'' t := fun r i => (h2 r i).trans (h1 r i)

theorem SameEntries.of_led {σ σ' : St} {t : Nat} (h : σ'.led = σ.led) : SameEntries σ σ' t := by
  intro r i; rw [h]

theorem sameEntries_set (σ σ' : St) (t r : Nat) (i : Int) (s' : Slot) (hl : σ'.led = σ.led.set r i s')
    (hs : usageOf s'.usage t = usageOf (σ.led.get r i).usage t) : SameEntries σ σ' t := by
  intro r' i'
  rw [hl, Ledger.get_set]
  split
  · rename_i h; rw [← h.1, ← h.2]; exact hs
  · rfl

/-- `R` is reflexive, transitive, and holds across each change of the books made on behalf of task `t`: a reservation, a tail
    release, a booking -/
structure BookRel (e : Env) (t : Nat) (i : Int) (R : St → St → Prop) : Prop where
  refl : ∀ σ, R σ σ
  trans : ∀ σ σ' σ'', R σ σ' → R σ' σ'' → R σ σ''
  reserve : ∀ σ r off, R σ (reserveAt σ r i off)
  release : ∀ (σ : St) r a, R σ { σ with led := σ.led.set r i ((σ.led.get r i).release t a) }
  book : ∀ σ r, R σ (bookSlot e σ r i t).1

/-- … and across the other changes the scheduling of `t` is made of: writing attributes of `t` that keep its flags, a warning -/
structure MoveRel (e : Env) (t : Nat) (i : Int) (R : St → St → Prop) : Prop extends BookRel e t i R where
  attr : ∀ σ x, x.done = (σ.tst t).done → x.scheduled = (σ.tst t).scheduled → x.forward = (σ.tst t).forward → R σ (σ.setT t x)
  warn : ∀ (σ : St) w, R σ { σ with warnings := w }

section
variable {e : Env} {t : Nat} {cur : Int} {R : St → St → Prop} (h : BookRel e t cur R)
include h

theorem foldl_rel {α : Type} (f : St → α → St) (hf : ∀ acc a, R acc (f acc a)) (l : List α) (σ : St) : R σ (l.foldl f σ) := by
  induction l generalizing σ with
  | nil => exact h.refl σ
  | cons x xs ih => exact h.trans _ _ _ (hf σ x) (ih _)

theorem leveled_rel (σ : St) (sel : List Nat) : R σ (leveled e σ t cur sel) := by
  unfold leveled; split
  · exact foldl_rel h _ (fun acc r => h.reserve acc r _) sel σ
  · exact h.refl σ

end

section
variable {e : Env} {t : Nat} {w : Walk} {R : St → St → Prop} (h : BookRel e t w.cur R)
include h

theorem bookResource_rel (σ : St) (r : Nat) : R σ (bookResource e σ t w r).1 := by
  rw [bookResource_eq]
  have h1 : R σ (reserveStep σ w r) := by
    unfold reserveStep; split
    · exact h.reserve σ r w.offset
    · exact h.refl σ
  split
  · exact h.trans _ _ _ h1 (h.book _ r)
  · exact h1

theorem bookAll_rel (σ : St) (sel : List Nat) : R σ (bookAll e σ t w sel).σ := by
  unfold bookAll
  have : ∀ (l : List Nat) (a : BookAcc), R a.σ (l.foldl (bookOne e t w) a).σ := by
    intro l
    induction l with
    | nil => intro a; exact h.refl _
    | cons x xs ih =>
      intro a
      refine h.trans _ _ _ ?_ (ih _)
      unfold bookOne; simp only []
      split <;> exact bookResource_rel h a.σ x
  exact this sel { σ := σ, last := w.last }

theorem finishTask_rel (σ : St) (before : Rat) (fwd : Bool) : R σ (finishTask e σ t w before fwd).1 := by
  unfold finishTask
  split
  · exact h.refl σ
  · rename_i r _
    simp only []
    exact releaseOthers_ind (Q := R σ) (fun acc m _ hacc _ _ => h.trans _ _ _ hacc (h.release acc m _)) _ _
      (h.release σ r (needSecs e σ t w before r))

end

section
variable {e : Env} {t : Nat} {w : Walk} {R : St → St → Prop} (h : MoveRel e t w.cur R)
include h

theorem bookResources_rel (σ : St) : R σ (bookResources e σ t w).1 := by
  refine bookResources_cases (P := fun p => R σ p.1) e σ t w (fun _ => h.refl σ) (fun sel _ acc hacc => ?_)
  have h1 : R σ acc.σ := by
    rw [hacc]
    exact h.trans _ _ _ (leveled_rel h.toBookRel σ sel) (bookAll_rel h.toBookRel _ sel)
  split
  · refine h.trans _ _ _ h1 ?_
    unfold markStart; split
    · exact h.attr _ _ rfl rfl rfl
    · exact h.refl _
  · exact h1

theorem scheduleSlot_rel (σ : St) : R σ (scheduleSlot e σ t w).1 := by
  cases hz : ((e.taskD t).milestone || (e.taskD t).effort == 0) with
  | true =>
    -- a milestone writes dates only; which ones does not matter here, so the four cases are taken from the definition
    unfold scheduleSlot
    simp only [hz, if_true]
    split
    · split <;> exact h.attr σ _ rfl rfl rfl
    · split <;> exact h.attr σ _ rfl rfl rfl
  | false =>
    have h1 := bookResources_rel h σ
    by_cases hd : (bookResources e σ t w).2.done ≥ (e.taskD t).effort
    · rw [(scheduleSlot_booking e σ t w hz).trans (if_pos hd)]
      refine h.trans _ _ _ (h.trans _ _ _ h1 (finishTask_rel (w := (bookResources e σ t w).2)
          (by rw [(bookResources_walk e σ t w).1]; exact h.toBookRel) _ w.done (σ.tst t).forward))
        (h.trans _ _ _ (h.attr _ _ ?_ ?_ ?_) (h.warn _ _))
      all_goals split <;> rfl
    · rw [scheduleSlot_go e σ t w hz hd]; exact h1

end

theorem walkLoop_rel {e : Env} {t : Nat} {R : St → St → Prop} (h : ∀ i, MoveRel e t i R) (fwd : Bool) (fuel : Nat)
    (σ : St) (w : Walk) : R σ (walkLoop e t fwd fuel σ w).1 := by
  induction fuel generalizing σ w with
  | zero => exact (h 0).refl σ
  | succ f ih =>
    unfold walkLoop
    simp only []
    have h1 := scheduleSlot_rel (h w.cur) σ
    split
    · exact h1
    · split
      · exact h1
      · exact (h 0).trans _ _ _ h1 (ih _ _)



theorem bookSlot_same (e : Env) (σ : St) (r : Nat) (i : Int) (t0 t : Nat) (h : t0 ≠ t) :
    SameEntries σ (bookSlot e σ r i t0).1 t := by
  apply sameEntries_set σ _ t r i ((σ.led.get r i).book e.G t0)
  · rw [bookSlot_eq, incAll_led]
  · exact book_other _ _ _ _ h

theorem reserveAt_same (σ : St) (r : Nat) (i : Int) (c : Rat) (t : Nat) : SameEntries σ (reserveAt σ r i c) t := by
  apply sameEntries_set σ _ t r i ((σ.led.get r i).reserve c) rfl
  rw [reserve_usage]

theorem leveled_same (e : Env) (σ : St) (t0 : Nat) (cur : Int) (sel : List Nat) (t : Nat) :
    SameEntries σ (leveled e σ t0 cur sel) t := by
  unfold leveled levelTeam
  split
  · exact foldl_inv (fun acc => SameEntries σ acc t) _ sel σ (SameEntries.refl σ t)
      (fun acc r h => h.trans (reserveAt_same acc r cur _ t))
  · exact SameEntries.refl σ t

theorem bookResources_led (e : Env) (σ : St) (t : Nat) (w : Walk) :
    (bookResources e σ t w).1.led = σ.led ∨
    (e.taskD t).hasAlloc = true ∧ (bookResources e σ t w).1.led =
      (bookAll e (leveled e σ t w.cur (selectedOf e σ t w)) t { w with selected := some (selectedOf e σ t w) }
        (selectedOf e σ t w)).σ.led := by
  unfold bookResources
  generalize selectedOf e σ t w = sel
  by_cases h1 : (!(e.taskD t).hasAlloc) = true
  · rw [if_pos h1]; exact Or.inl rfl
  rw [if_neg h1]
  simp only []
  by_cases h2 : sel.isEmpty = true
  · rw [if_pos h2]; exact Or.inl rfl
  rw [if_neg h2]
  by_cases h3 : teamGateFails e σ t { w with selected := some sel } sel = true
  · rw [if_pos h3]; exact Or.inl rfl
  rw [if_neg h3]
  generalize bookAll e (leveled e σ t w.cur sel) t { w with selected := some sel } sel = acc
  by_cases h4 : acc.any = true
  · rw [if_pos h4]; exact Or.inr ⟨by simpa using h1, markStart_led _ _ _ _⟩
  · rw [if_neg h4]; exact Or.inr ⟨by simpa using h1, rfl⟩

theorem sameEntries_moveRel (e : Env) (t0 t : Nat) (h : t0 ≠ t) (i : Int) : MoveRel e t0 i (fun σ σ' => SameEntries σ σ' t) :=
  ⟨⟨fun σ => SameEntries.refl σ t, fun _ _ _ h1 h2 => h1.trans h2, fun σ r off => reserveAt_same σ r i off t,
    fun σ r a => sameEntries_set σ _ t r i _ rfl (release_other _ _ _ _ h), fun σ r => bookSlot_same e σ r i t0 t h⟩,
   fun _ _ _ _ _ => SameEntries.of_led rfl, fun _ _ => SameEntries.of_led rfl⟩

theorem walkLoop_same (e : Env) (t0 : Nat) (fwd : Bool) (fuel : Nat) (σ : St) (w : Walk) (t : Nat) (h : t0 ≠ t) :
    SameEntries σ (walkLoop e t0 fwd fuel σ w).1 t := walkLoop_rel (sameEntries_moveRel e t0 t h) fwd fuel σ w

/-- **frame**: scheduling task `t0` changes no ledger entry of any other task -/
theorem scheduleTask_same (e : Env) (σ : St) (t0 t : Nat) (h : t0 ≠ t) : SameEntries σ (scheduleTask e σ t0).1 t := by
  rcases scheduleTask_led e σ t0 with hl | hl
  · exact SameEntries.of_led hl
  · exact ((SameEntries.of_led (σ := σ) (σ' := (walkStart e σ t0).1) rfl).trans
      (walkLoop_same e t0 (σ.tst t0).forward _ _ _ t h)).trans (SameEntries.of_led hl)

theorem Exact.of_same {e : Env} {σ σ' : St} {t r : Nat} {vis : List Int} (hs : SameEntries σ σ' t)
    (h : Exact e σ t r vis) : Exact e σ' t r vis :=
  h.congr (hs r)

end SP

namespace SP

/-- `σ'` differs from `σ` in the attributes of task `t0` only, and not in its `done`, `scheduled` and `forward` flags nor in
    the size of the task table -/
def TsFrame (σ σ' : St) (t0 : Nat) : Prop :=
  (∀ t, t ≠ t0 → σ'.tst t = σ.tst t) ∧ (σ'.tst t0).done = (σ.tst t0).done ∧
  (σ'.tst t0).scheduled = (σ.tst t0).scheduled ∧ (σ'.tst t0).forward = (σ.tst t0).forward ∧
  σ'.ts.size = σ.ts.size

theorem TsFrame.refl (σ : St) (t0 : Nat) : TsFrame σ σ t0 := ⟨fun _ _ => rfl, rfl, rfl, rfl, rfl⟩

theorem TsFrame.trans {σ σ' σ'' : St} {t0 : Nat} (h1 : TsFrame σ σ' t0) (h2 : TsFrame σ' σ'' t0) : TsFrame σ σ'' t0 :=
  ⟨fun t ht => (h2.1 t ht).trans (h1.1 t ht), h2.2.1.trans h1.2.1, h2.2.2.1.trans h1.2.2.1,
   h2.2.2.2.1.trans h1.2.2.2.1, h2.2.2.2.2.trans h1.2.2.2.2⟩

theorem TsFrame.of_ts {σ σ' : St} {t0 : Nat} (h : σ'.ts = σ.ts) : TsFrame σ σ' t0 := by
  unfold TsFrame St.tst; rw [h]; exact ⟨fun _ _ => rfl, rfl, rfl, rfl, rfl⟩

theorem TsFrame.setT (σ : St) (t0 : Nat) (x : TSt) (hx : x.done = (σ.tst t0).done)
    (hs : x.scheduled = (σ.tst t0).scheduled) (hf : x.forward = (σ.tst t0).forward := by rfl) :
    TsFrame σ (σ.setT t0 x) t0 := by
  refine ⟨fun t ht => tst_setT_other σ t0 x t (Ne.symm ht), ?_, ?_, ?_, size_setT σ t0 x⟩
  · rw [tst_setT]
    split
    · exact hx
    · rfl
  · rw [tst_setT]
    split
    · exact hs
    · rfl
  · rw [tst_setT]
    split
    · exact hf
    · rfl

theorem ts_bookRel (e : Env) (t0 : Nat) (i : Int) : BookRel e t0 i (fun σ σ' => σ'.ts = σ.ts) :=
  ⟨fun _ => rfl, fun _ _ _ h1 h2 => h2.trans h1, fun _ _ _ => rfl, fun _ _ _ => rfl, fun σ r => bookSlot_ts e σ r i t0⟩

theorem tsFrame_moveRel (e : Env) (t0 : Nat) (i : Int) : MoveRel e t0 i (fun σ σ' => TsFrame σ σ' t0) :=
  ⟨⟨fun σ => TsFrame.refl σ t0, fun _ _ _ h1 h2 => h1.trans h2, fun _ _ _ => TsFrame.of_ts rfl, fun _ _ _ => TsFrame.of_ts rfl,
    fun σ r => TsFrame.of_ts (bookSlot_ts e σ r i t0)⟩,
   fun σ x h1 h2 h3 => TsFrame.setT σ t0 x h1 h2 h3, fun _ _ => TsFrame.of_ts rfl⟩

theorem leveled_ts (e : Env) (σ : St) (t0 : Nat) (cur : Int) (sel : List Nat) : (leveled e σ t0 cur sel).ts = σ.ts :=
  leveled_rel (ts_bookRel e t0 cur) σ sel

theorem bookAll_ts (e : Env) (σ : St) (t0 : Nat) (w : Walk) (sel : List Nat) : (bookAll e σ t0 w sel).σ.ts = σ.ts :=
  bookAll_rel (ts_bookRel e t0 _) σ sel

theorem finishTask_ts (e : Env) (σ : St) (t0 : Nat) (w : Walk) (before : Rat) (fwd : Bool) :
    (finishTask e σ t0 w before fwd).1.ts = σ.ts :=
  finishTask_rel (ts_bookRel e t0 _) σ before fwd

theorem bookResources_frame (e : Env) (σ : St) (t0 : Nat) (w : Walk) : TsFrame σ (bookResources e σ t0 w).1 t0 :=
  bookResources_rel (tsFrame_moveRel e t0 _) σ

theorem scheduleSlot_frame (e : Env) (σ : St) (t0 : Nat) (w : Walk) : TsFrame σ (scheduleSlot e σ t0 w).1 t0 :=
  scheduleSlot_rel (tsFrame_moveRel e t0 _) σ

theorem walkLoop_frame (e : Env) (t0 : Nat) (fwd : Bool) (fuel : Nat) (σ : St) (w : Walk) :
    TsFrame σ (walkLoop e t0 fwd fuel σ w).1 t0 :=
  walkLoop_rel (tsFrame_moveRel e t0) fwd fuel σ w

end SP

namespace SP

theorem preStartT_done (e : Env) (σ : St) (t : Nat) (c : Int) : (preStartT e σ t c).done = (σ.tst t).done := by
  unfold preStartT; simp only []; split <;> rfl

theorem preStartT_scheduled (e : Env) (σ : St) (t : Nat) (c : Int) : (preStartT e σ t c).scheduled = (σ.tst t).scheduled := by
  unfold preStartT; simp only []; split <;> rfl

theorem preStartT_forward (e : Env) (σ : St) (t : Nat) (c : Int) : (preStartT e σ t c).forward = (σ.tst t).forward := by
  unfold preStartT; simp only []; split <;> rfl

/-- `scheduleTask` seen from outside: a task that is done is left alone; otherwise the attributes of `t0` are written last,
    to a state that differs from `σ` in `t0` only and not in its flags — the runaway mark after a failure, `finalT` after a
    success -/
theorem scheduleTask_cases (e : Env) (σ : St) (t0 : Nat) :
    scheduleTask e σ t0 = (σ, true) ∨ ∃ X, TsFrame σ X t0 ∧
      (scheduleTask e σ t0 = (X.setT t0 { X.tst t0 with runaway := true }, false) ∨
       ∃ w, scheduleTask e σ t0 =
        (X.setT t0 (finalT e t0 (σ.tst t0).forward (walkStart e σ t0).2.cur (X.tst t0) w), true)) := by
  have h0 : TsFrame σ (walkStart e σ t0).1 t0 :=
    TsFrame.setT σ t0 _ (preStartT_done e σ t0 _) (preStartT_scheduled e σ t0 _) (preStartT_forward e σ t0 _)
  have h1 := walkLoop_frame e t0 (σ.tst t0).forward (e.size.toNat + 3) (walkStart e σ t0).1 (walkStart e σ t0).2
  -- name the result, then unfold its definition
  generalize hs : scheduleTask e σ t0 = s
  unfold scheduleTask at hs
  simp only [] at hs
  split at hs
  · exact Or.inl hs.symm
  · split at hs
    · exact Or.inr ⟨_, h0, Or.inl hs.symm⟩
    · split at hs
      · exact Or.inr ⟨_, h0.trans h1, Or.inl hs.symm⟩
      · exact Or.inr ⟨_, h0.trans h1, Or.inr ⟨_, hs.symm⟩⟩

theorem scheduleTask_other (e : Env) (σ : St) (t0 t : Nat) (h : t ≠ t0) : (scheduleTask e σ t0).1.tst t = σ.tst t := by
  rcases scheduleTask_cases e σ t0 with h' | ⟨X, hX, h' | ⟨w, h'⟩⟩
  · rw [h']
  · rw [h']; exact (tst_setT_other _ _ _ _ (Ne.symm h)).trans (hX.1 t h)
  · rw [h']; exact (tst_setT_other _ _ _ _ (Ne.symm h)).trans (hX.1 t h)

theorem done_setT_runaway (X : St) (t0 : Nat) :
    ((X.setT t0 { X.tst t0 with runaway := true }).tst t0).done = (X.tst t0).done := by
  rw [tst_setT]; split <;> rfl

/-- the `done` flag of a task is set by a successful `scheduleTask` only -/
theorem scheduleTask_done (e : Env) (σ : St) (t0 : Nat) (hnd : (σ.tst t0).done = false)
    (hd : ((scheduleTask e σ t0).1.tst t0).done = true) : (scheduleTask e σ t0).2 = true := by
  rcases scheduleTask_cases e σ t0 with h' | ⟨X, hX, h' | ⟨w, h'⟩⟩
  · rw [h']
  · rw [h'] at hd
    rw [done_setT_runaway, hX.2.1, hnd] at hd
    exact Bool.noConfusion hd
  · rw [h']

/-! `scheduleSlot` of an effort task by the flag it returns -/

theorem scheduleSlot_effort_true (e : Env) (σ : St) (t : Nat) (w : Walk) (hm : (e.taskD t).milestone = false)
    (hpos : 0 < (e.taskD t).effort) (hc : (scheduleSlot e σ t w).2.2 = true) :
    (scheduleSlot e σ t w).1 = (bookResources e σ t w).1 ∧ (scheduleSlot e σ t w).2.1 = (bookResources e σ t w).2 := by
  rcases scheduleSlot_effort_cases e σ t w hm hpos with ⟨-, hs⟩ | ⟨-, hc0, -⟩
  · rw [hs]; exact ⟨rfl, rfl⟩
  · exact Bool.noConfusion (hc0.symm.trans hc)

/-- the slot that finishes an effort task: the booking attempt reached the effort, the ledger is that of `finishTask`, and
    the date `finishTask` returns becomes the task's end (forward) or start -/
theorem scheduleSlot_effort_false (e : Env) (σ : St) (t : Nat) (w : Walk) (hm : (e.taskD t).milestone = false)
    (hpos : 0 < (e.taskD t).effort) (hb : t < σ.ts.size) (hc : (scheduleSlot e σ t w).2.2 = false) :
    (e.taskD t).effort ≤ (bookResources e σ t w).2.done ∧
    (scheduleSlot e σ t w).2.1 = (bookResources e σ t w).2 ∧
    (scheduleSlot e σ t w).1.led =
      (finishTask e (bookResources e σ t w).1 t (bookResources e σ t w).2 w.done (σ.tst t).forward).1.led ∧
    (scheduleSlot e σ t w).1.tst t =
      if (σ.tst t).forward then
        { (bookResources e σ t w).1.tst t with
          stop := some (finishTask e (bookResources e σ t w).1 t (bookResources e σ t w).2 w.done (σ.tst t).forward).2 }
      else
        { (bookResources e σ t w).1.tst t with
          start := some (finishTask e (bookResources e σ t w).1 t (bookResources e σ t w).2 w.done (σ.tst t).forward).2 } := by
  rcases scheduleSlot_effort_cases e σ t w hm hpos with ⟨-, hs⟩ | ⟨hfin, -, hled⟩
  · rw [hs] at hc; exact Bool.noConfusion hc
  · have hs := (scheduleSlot_booking e σ t w (effortTask_branch e t hm hpos)).trans (if_pos hfin)
    have hts : (finishTask e (bookResources e σ t w).1 t (bookResources e σ t w).2 w.done (σ.tst t).forward).1.tst t =
        (bookResources e σ t w).1.tst t := by unfold St.tst; rw [finishTask_ts]
    refine ⟨hfin, by rw [hs], hled, ?_⟩
    rw [hs]
    simp only []
    rw [tst_warnings, tst_setT_same _ _ _ (by rw [finishTask_ts, (bookResources_frame e σ t w).2.2.2.2]; exact hb), hts]

end SP
