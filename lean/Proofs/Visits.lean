import Proofs.FrameWalk
import Proofs.EffortGlobal
import Proofs.TeamAll
/-!
C08 along the walk, in either direction.  `visits e t fwd` lists the (state, walk) pairs in which `scheduleSlot` is called
(`walkVisits`: forward).  Every visit is reached under whatever the slots before it keep (`visits_reach`); a slot's
operations touch that slot only (`scheduleSlot_other`), so a later slot leaves the slot of a visit alone (`walk_head`); the
visited slots are consecutive, and a slot the walk changed was visited (`visits_between`).  `gate`: the resource is available
to the task and its limits allow the booking.  For a single resource a visited slot ends up booked for the task exactly
when the gate was open when it was visited (`walk_no_idle`, `scheduleTask_no_idle`).
-/
namespace SP

/-- what a slot's operations do to the ledger happens in that slot: any other slot `(r', i')` keeps its content -/
theorem other_moveRel (e : Env) (t : Nat) (i : Int) (r' : Nat) (i' : Int) (h : i' ≠ i) :
    MoveRel e t i (fun σ σ' => σ'.led.get r' i' = σ.led.get r' i') :=
  have hne : ∀ r, ¬ (r = r' ∧ i = i') := fun _ hh => h hh.2.symm
  ⟨⟨fun _ => rfl, fun _ _ _ h1 h2 => h2.trans h1, fun σ r off => by rw [reserveAt_get, if_neg (hne r)],
    fun σ r a => by simp only [Ledger.get_set, if_neg (hne r)], fun σ r => bookSlot_frame e σ r i t r' i' (hne r)⟩,
   fun _ _ _ _ _ => rfl, fun _ _ => rfl⟩

theorem bookResources_other (e : Env) (σ : St) (t : Nat) (w : Walk) (r' : Nat) (i' : Int) (h : i' ≠ w.cur) :
    (bookResources e σ t w).1.led.get r' i' = σ.led.get r' i' :=
  bookResources_rel (other_moveRel e t w.cur r' i' h) σ

theorem finishTask_other (e : Env) (σ : St) (t : Nat) (w : Walk) (before : Rat) (fwd : Bool) (r' : Nat) (i' : Int)
    (h : i' ≠ w.cur) : (finishTask e σ t w before fwd).1.led.get r' i' = σ.led.get r' i' :=
  finishTask_rel (other_moveRel e t w.cur r' i' h).toBookRel σ before fwd

theorem scheduleSlot_other (e : Env) (σ : St) (t : Nat) (w : Walk) (r' : Nat) (i' : Int) (h : i' ≠ w.cur) :
    (scheduleSlot e σ t w).1.led.get r' i' = σ.led.get r' i' :=
  scheduleSlot_rel (other_moveRel e t w.cur r' i' h) σ


def visits (e : Env) (t : Nat) (fwd : Bool) : Nat → St → Walk → List (St × Walk)
  | 0, _, _ => []
  | f + 1, σ, w =>
    (σ, w) :: (if !(scheduleSlot e σ t w).2.2 then []
      else if (advance fwd w (scheduleSlot e σ t w).2.1).cur < 0 || (advance fwd w (scheduleSlot e σ t w).2.1).cur > e.upper then []
      else visits e t fwd f (scheduleSlot e σ t w).1 (advance fwd w (scheduleSlot e σ t w).2.1))

theorem next_cur (e : Env) (σ : St) (t : Nat) (fwd : Bool) (w : Walk) :
    (advance fwd w (scheduleSlot e σ t w).2.1).cur = w.cur + (if fwd then 1 else -1) := by
  rw [advance_cur, scheduleSlot_cur]

theorem walk_step (e : Env) (t : Nat) (fwd : Bool) (f : Nat) (σ : St) (w : Walk) :
    ((walkLoop e t fwd (f + 1) σ w).1 = (scheduleSlot e σ t w).1 ∧ visits e t fwd (f + 1) σ w = [(σ, w)]) ∨
    ((scheduleSlot e σ t w).2.2 = true ∧ 0 ≤ (advance fwd w (scheduleSlot e σ t w).2.1).cur ∧
      (advance fwd w (scheduleSlot e σ t w).2.1).cur ≤ e.upper ∧
      walkLoop e t fwd (f + 1) σ w =
        walkLoop e t fwd f (scheduleSlot e σ t w).1 (advance fwd w (scheduleSlot e σ t w).2.1) ∧
      visits e t fwd (f + 1) σ w =
        (σ, w) :: visits e t fwd f (scheduleSlot e σ t w).1 (advance fwd w (scheduleSlot e σ t w).2.1)) := by
  rw [walkLoop, visits]
  generalize scheduleSlot e σ t w = x
  simp only []
  split
  · exact Or.inl ⟨rfl, rfl⟩
  · rename_i hc
    split
    · exact Or.inl ⟨rfl, rfl⟩
    · rename_i hb
      simp only [Bool.or_eq_true, decide_eq_true_eq, not_or, Int.not_lt] at hb
      exact Or.inr ⟨by simpa using hc, hb.1, hb.2, rfl, rfl⟩

theorem steps_succ (fwd : Bool) (c : Int) (k : Nat) :
    c + (if fwd then 1 else -1) + k * (if fwd then 1 else -1) = c + (k + 1 : Nat) * (if fwd then 1 else -1) ∧
    c + (if fwd then 1 else -1) + k * (if fwd then 1 else -1) ≠ c := by
  cases fwd <;> simp <;> omega

theorem steps_between (fwd : Bool) {c L i : Int} {k : Nat} (hL : L = c + k * (if fwd then 1 else -1))
    (hi : if fwd then c ≤ i ∧ i ≤ L else L ≤ i ∧ i ≤ c) : ∃ j : Nat, j ≤ k ∧ i = c + j * (if fwd then 1 else -1) := by
  cases fwd
  · simp at hL hi
    exact ⟨(c - i).toNat, by omega, by simp; omega⟩
  · simp at hL hi
    exact ⟨(i - c).toNat, by omega, by simp; omega⟩

/-- **none skipped**: the k-th visit is k slots from the cursor, in the direction of the walk -/
theorem visits_consecutive (e : Env) (t : Nat) (fwd : Bool) (fuel : Nat) (σ : St) (w : Walk) (k : Nat)
    (hk : k < (visits e t fwd fuel σ w).length) :
    ((visits e t fwd fuel σ w)[k]).2.cur = w.cur + k * (if fwd then 1 else -1) := by
  induction fuel generalizing σ w k with
  | zero => simp [visits] at hk
  | succ f ih =>
    rcases walk_step e t fwd f σ w with ⟨-, hv⟩ | ⟨-, -, -, -, hv⟩
    · simp only [hv, List.length_singleton, Nat.lt_one_iff] at hk ⊢
      simp [hk]
    · simp only [hv] at hk ⊢
      cases k with
      | zero => simp
      | succ k =>
        simp only [List.length_cons, Nat.add_lt_add_iff_right] at hk
        rw [List.getElem_cons_succ, ih _ _ k hk, next_cur]
        exact (steps_succ fwd w.cur k).1

theorem visits_reach {e : Env} {t : Nat} {fwd : Bool} {P : St → Walk → Prop}
    (hstep : ∀ σ w, P σ w → (scheduleSlot e σ t w).2.2 = true →
      0 ≤ (advance fwd w (scheduleSlot e σ t w).2.1).cur → (advance fwd w (scheduleSlot e σ t w).2.1).cur ≤ e.upper →
      P (scheduleSlot e σ t w).1 (advance fwd w (scheduleSlot e σ t w).2.1))
    (fuel : Nat) (σ : St) (w : Walk) (h : P σ w) :
    ∀ p ∈ visits e t fwd fuel σ w, P p.1 p.2 ∧ ∃ f', walkLoop e t fwd fuel σ w = walkLoop e t fwd (f' + 1) p.1 p.2 := by
  induction fuel generalizing σ w with
  | zero => intro p hp; simp [visits] at hp
  | succ f ih =>
    intro p hp
    by_cases hhead : p = (σ, w)
    · subst hhead
      exact ⟨h, f, rfl⟩
    · rcases walk_step e t fwd f σ w with ⟨-, hv⟩ | ⟨hc, h0, h1, hl, hv⟩
      · rw [hv] at hp
        exact absurd (List.mem_singleton.mp hp) hhead
      · rw [hv] at hp
        rw [hl]
        exact ih _ _ (hstep σ w h hc h0 h1) p ((List.mem_cons.mp hp).resolve_left hhead)

theorem visits_reach_inv {e : Env} {t : Nat} {fwd : Bool} {P : St → Walk → Prop} (wf : WF e) (hlf : (e.taskD t).leaf = true)
    (hstep : ∀ σ w, Inv e σ → WalkOk e t w → P σ w → (scheduleSlot e σ t w).2.2 = true →
      0 ≤ (advance fwd w (scheduleSlot e σ t w).2.1).cur → (advance fwd w (scheduleSlot e σ t w).2.1).cur ≤ e.upper →
      P (scheduleSlot e σ t w).1 (advance fwd w (scheduleSlot e σ t w).2.1))
    (fuel : Nat) (σ : St) (w : Walk) (hinv : Inv e σ) (hw : WalkOk e t w) (h : P σ w) :
    ∀ p ∈ visits e t fwd fuel σ w, P p.1 p.2 ∧ Inv e p.1 ∧ WalkOk e t p.2 ∧
      ∃ f', walkLoop e t fwd fuel σ w = walkLoop e t fwd (f' + 1) p.1 p.2 := by
  intro p hp
  obtain ⟨⟨hi', hw', hp'⟩, hf'⟩ := visits_reach (P := fun σ w => Inv e σ ∧ WalkOk e t w ∧ P σ w)
    (fun σ w ⟨hi, hw, h⟩ hc h0 h1 =>
      ⟨(scheduleSlot_inv e σ t w wf hi hlf hw).1, walkOk_advance e t wf _ _ _ ((scheduleSlot_inv e σ t w wf hi hlf hw).2 hc),
        hstep σ w hi hw h hc h0 h1⟩)
    fuel σ w ⟨hinv, hw, h⟩ p hp
  exact ⟨hp', hi', hw', hf'⟩

theorem walk_unvisited (e : Env) (t : Nat) (fwd : Bool) (fuel : Nat) (σ : St) (w : Walk) (r' : Nat) (i' : Int)
    (h : ∀ p ∈ visits e t fwd fuel σ w, p.2.cur ≠ i') : (walkLoop e t fwd fuel σ w).1.led.get r' i' = σ.led.get r' i' := by
  induction fuel generalizing σ w with
  | zero => rfl
  | succ f ih =>
    rcases walk_step e t fwd f σ w with ⟨hl, hv⟩ | ⟨-, -, -, hl, hv⟩
    · rw [hl]
      exact scheduleSlot_other e σ t w r' i' (Ne.symm (h (σ, w) (by rw [hv]; exact List.mem_singleton_self _)))
    · rw [hv] at h
      rw [hl, ih _ _ (fun p hp => h p (List.mem_cons_of_mem _ hp))]
      exact scheduleSlot_other e σ t w r' i' (Ne.symm (h (σ, w) List.mem_cons_self))

theorem walk_head (e : Env) (t : Nat) (fwd : Bool) (f : Nat) (σ : St) (w : Walk) (r : Nat) :
    (walkLoop e t fwd (f + 1) σ w).1.led.get r w.cur = (scheduleSlot e σ t w).1.led.get r w.cur := by
  rcases walk_step e t fwd f σ w with ⟨hl, -⟩ | ⟨-, -, -, hl, -⟩
  · rw [hl]
  · rw [hl]
    apply walk_unvisited
    intro p hp
    obtain ⟨k, hk, rfl⟩ := List.getElem_of_mem hp
    rw [visits_consecutive e t fwd f _ _ k hk, next_cur]
    exact (steps_succ fwd w.cur k).2

theorem visits_between (e : Env) (t : Nat) (fwd : Bool) (fuel : Nat) (σ : St) (w : Walk) (r : Nat) (L i : Int)
    (hL : (walkLoop e t fwd fuel σ w).1.led.get r L ≠ σ.led.get r L)
    (hi : if fwd then w.cur ≤ i ∧ i ≤ L else L ≤ i ∧ i ≤ w.cur) : ∃ p ∈ visits e t fwd fuel σ w, p.2.cur = i := by
  have hLv : ∃ p ∈ visits e t fwd fuel σ w, p.2.cur = L :=
    Classical.byContradiction fun hno => hL (walk_unvisited e t fwd fuel σ w r L (fun p hp heq => hno ⟨p, hp, heq⟩))
  obtain ⟨pL, hpL, hcurL⟩ := hLv
  obtain ⟨k, hk, hkeq⟩ := List.getElem_of_mem hpL
  have hkc := visits_consecutive e t fwd fuel σ w k hk
  rw [hkeq, hcurL] at hkc
  obtain ⟨j, hjk, hij⟩ := steps_between fwd hkc hi
  have hj : j < (visits e t fwd fuel σ w).length := Nat.lt_of_le_of_lt hjk hk
  exact ⟨_, List.getElem_mem hj, by rw [visits_consecutive e t fwd fuel σ w j hj, hij]⟩

def walkVisits (e : Env) (t : Nat) : Nat → St → Walk → List (St × Walk)
  | 0, _, _ => []
  | f + 1, σ, w =>
    (σ, w) :: (if !(scheduleSlot e σ t w).2.2 then []
      else if (advance true w (scheduleSlot e σ t w).2.1).cur < 0 || (advance true w (scheduleSlot e σ t w).2.1).cur > e.upper then []
      else walkVisits e t f (scheduleSlot e σ t w).1 (advance true w (scheduleSlot e σ t w).2.1))

theorem walkVisits_eq (e : Env) (t : Nat) (fuel : Nat) (σ : St) (w : Walk) : walkVisits e t fuel σ w = visits e t true fuel σ w := by
  induction fuel generalizing σ w with
  | zero => rfl
  | succ f ih => rw [walkVisits, visits, ih]

/-- **none skipped**: the k-th visit is at slot `cursor + k` -/
theorem walkVisits_consecutive (e : Env) (t : Nat) (fuel : Nat) (σ : St) (w : Walk) (k : Nat)
    (hk : k < (walkVisits e t fuel σ w).length) : ((walkVisits e t fuel σ w)[k]).2.cur = w.cur + k := by
  simp only [walkVisits_eq] at hk ⊢
  rw [visits_consecutive e t true fuel σ w k hk]
  simp

/-- the gate of one booking attempt on resource `r` in the state and walk of a visit -/
def gate (e : Env) (σ : St) (t : Nat) (w : Walk) (r : Nat) : Bool :=
  available e (reserveStep σ w r) r w.cur && taskLimitsOk e (reserveStep σ w r) t w.cur r

theorem bookResources_single_iff (e : Env) (σ : St) (t : Nat) (w : Walk) (r : Nat)
    (ha : (e.taskD t).hasAlloc = true) (hsel : selectedOf e σ t w = [r])
    (hnone : usageOf (σ.led.get r w.cur).usage t = none) :
    usageOf ((bookResources e σ t w).1.led.get r w.cur).usage t ≠ none ↔ gate e σ t w r = true := by
  rw [bookResources_single e σ t w r ha hsel]
  simp only []
  have key : usageOf ((bookResource e σ t { w with selected := some [r] } r).1.led.get r w.cur).usage t ≠ none ↔
      gate e σ t w r = true := by
    rw [bookResource_eq]
    have hrs : reserveStep σ { w with selected := some [r] } r = reserveStep σ w r := rfl
    have hn' : usageOf ((reserveStep σ w r).led.get r w.cur).usage t = none := by rw [reserveStep_get]; exact hnone
    unfold gate
    simp only [hrs]
    split
    · rename_i hc
      constructor
      · intro _; exact hc
      · intro _
        rw [bookSlot_entry, usageOf_append_none _ _ _ hn']; simp
    · rename_i hc
      constructor
      · intro hne; exact absurd hn' hne
      · intro hg; exact absurd hg hc
  split
  · simp only [markStart_led]; exact key
  · exact key

theorem gain_of_finish {d d' S η E : Rat} (hd : d' = d + S / 3600 * η) (hlt : d < E) (hfin : E ≤ d') : S ≠ 0 ∧ d' > d := by
  refine ⟨fun h0 => ?_, by grind⟩
  rw [h0] at hd
  grind

theorem scheduleSlot_finish_entry_acc (e : Env) (wf : WF e) (σ : St) (t r : Nat) (fwd : Bool) (w : Walk) (vis : List Int)
    (hinv : Inv e σ) (hlf : (e.taskD t).leaf = true) (hw : WalkOk e t w)
    (ha : (e.taskD t).hasAlloc = true) (hm : (e.taskD t).milestone = false)
    (hsel : selectedOf e σ t w = [r]) (hlt : w.done < (e.taskD t).effort) (hpos : 0 < (e.taskD t).effort)
    (h : Acc e σ t r fwd w vis) (hc : (scheduleSlot e σ t w).2.2 = false) :
    usageOf ((scheduleSlot e σ t w).1.led.get r w.cur).usage t ≠ none ∧ gate e σ t w r = true := by
  have hcur_notin : w.cur ∉ vis := cur_not_visited h.before
  have hnone := h.only _ hcur_notin
  obtain ⟨hdone, hframe, hselw, hcurw, hoffw, hlastw⟩ := bookResources_single_acc e wf σ t w r ha hsel hnone
  have hb := bookResources_inv e σ t w wf hinv hlf hw
  have heff := wf.eff_pos r
  rcases scheduleSlot_effort_cases e σ t w hm hpos with ⟨-, heq⟩ | ⟨hfin, -, hled⟩
  · rw [heq] at hc; exact Bool.noConfusion hc
  obtain ⟨hgain, hmore⟩ := gain_of_finish hdone hlt hfin
  have hu := taskSecs_ne_zero _ _ hgain
  have haG := entry_le_G e _ hb r w.cur t _ hu
  have hlast : (bookResources e σ t w).2.last = some r := hlastw hmore
  have hge : (e.taskD t).effort ≤ w.done + taskSecs ((bookResources e σ t w).1.led.get r w.cur) t / 3600 * (e.resD r).eff := by
    rw [← hdone]; exact hfin
  have hfs := finishTask_secs e wf (bookResources e σ t w).1 t (bookResources e σ t w).2 w.done (σ.tst t).forward r _
    hlast hselw (by rw [hcurw]; exact hu) haG hlt hge
  rw [hcurw] at hfs
  refine ⟨by rw [hled, hfs.1]; simp, ?_⟩
  exact (bookResources_single_iff e σ t w r ha hsel hnone).mp (by rw [hu]; simp)

theorem scheduleSlot_gate_iff (e : Env) (wf : WF e) (σ : St) (t r : Nat) (fwd : Bool) (w : Walk) (vis : List Int)
    (hinv : Inv e σ) (hlf : (e.taskD t).leaf = true) (hw : WalkOk e t w)
    (ha : (e.taskD t).hasAlloc = true) (hm : (e.taskD t).milestone = false)
    (hsel : selectedOf e σ t w = [r]) (hlt : w.done < (e.taskD t).effort) (hpos : 0 < (e.taskD t).effort)
    (h : Acc e σ t r fwd w vis) :
    usageOf ((scheduleSlot e σ t w).1.led.get r w.cur).usage t ≠ none ↔ gate e σ t w r = true := by
  rcases scheduleSlot_effort_cases e σ t w hm hpos with ⟨-, heq⟩ | ⟨-, hc, -⟩
  · have hcur_notin : w.cur ∉ vis := cur_not_visited h.before
    rw [heq]
    exact bookResources_single_iff e σ t w r ha hsel (h.only _ hcur_notin)
  · have := scheduleSlot_finish_entry_acc e wf σ t r fwd w vis hinv hlf hw ha hm hsel hlt hpos h hc
    exact ⟨fun _ => this.2, fun _ => this.1⟩

/-- **no eligible slot left idle, in either direction**: along the walk of a single-resource task, every visited slot ends up
    carrying an entry of the task exactly when its gate (resource available ∧ task limits allow) was open at the moment of
    the visit -/
theorem walk_no_idle (e : Env) (wf : WF e) (t r : Nat) (fwd : Bool) (fuel : Nat) (σ : St) (w : Walk) (vis : List Int)
    (hinv : Inv e σ) (hlf : (e.taskD t).leaf = true) (hw : WalkOk e t w)
    (ha : (e.taskD t).hasAlloc = true) (hm : (e.taskD t).milestone = false)
    (hsel : selectedOf e σ t w = [r]) (hlt : w.done < (e.taskD t).effort) (hpos : 0 < (e.taskD t).effort)
    (h : Acc e σ t r fwd w vis) :
    ∀ p ∈ visits e t fwd fuel σ w,
      (usageOf ((walkLoop e t fwd fuel σ w).1.led.get r p.2.cur).usage t ≠ none ↔ gate e p.1 t p.2 r = true) := by
  intro p hp
  obtain ⟨⟨vis', hacc, hsel', hlt'⟩, hi, hw', f', hf'⟩ := visits_reach_inv
    (P := fun σ w => ∃ vis, Acc e σ t r fwd w vis ∧ selectedOf e σ t w = [r] ∧ w.done < (e.taskD t).effort) wf hlf
    (fun σ w hi hw ⟨vis, hacc, hsel, hlt⟩ hc _ _ => by
      obtain ⟨h1, h2, h3⟩ := (scheduleSlot_acc e wf σ t r fwd w vis hi hlf hw ha hm hsel hlt hpos hacc).1 hc
      exact ⟨w.cur :: vis, h1, selectedOf_some e _ t _ [r] h2, h3⟩)
    fuel σ w hinv hw ⟨vis, h, hsel, hlt⟩ p hp
  rw [hf', walk_head]
  exact scheduleSlot_gate_iff e wf p.1 t r fwd p.2 vis' hi hlf hw' ha hm hsel' hlt' hpos hacc

theorem walkLoop_no_idle (e : Env) (wf : WF e) (t r : Nat) (fuel : Nat) (σ : St) (w : Walk) (vis : List Int)
    (hinv : Inv e σ) (hlf : (e.taskD t).leaf = true) (hw : WalkOk e t w)
    (ha : (e.taskD t).hasAlloc = true) (hm : (e.taskD t).milestone = false)
    (hsel : selectedOf e σ t w = [r]) (hlt : w.done < (e.taskD t).effort) (hpos : 0 < (e.taskD t).effort)
    (h : FInv e σ t r w vis) (hok : (walkLoop e t true fuel σ w).2.2 = true) :
    ∀ p ∈ walkVisits e t fuel σ w,
      (usageOf ((walkLoop e t true fuel σ w).1.led.get r p.2.cur).usage t ≠ none ↔ gate e p.1 t p.2 r = true) := by
  rw [walkVisits_eq]
  exact walk_no_idle e wf t r true fuel σ w vis hinv hlf hw ha hm hsel hlt hpos h.acc

theorem scheduleTask_forward_ok (e : Env) (wf : WF e) (σ : St) (t : Nat) (ha : (e.taskD t).hasAlloc = true)
    (hf : (σ.tst t).forward = true) (hnd : (σ.tst t).done = false) (hok : (scheduleTask e σ t).2 = true) :
    WalkIn e { cur := (initCursor e σ t).1, offset := (initCursor e σ t).2 } ∧
    WalkOk e t { cur := (initCursor e σ t).1, offset := (initCursor e σ t).2 } ∧
    (walkLoop e t true (e.size.toNat + 3) (σ.setT t (σ.tst t))
      { cur := (initCursor e σ t).1, offset := (initCursor e σ t).2 }).2.2 = true ∧
    (scheduleTask e σ t).1.led = (walkLoop e t true (e.size.toNat + 3) (σ.setT t (σ.tst t))
      { cur := (initCursor e σ t).1, offset := (initCursor e σ t).2 }).1.led ∧
    (scheduleTask e σ t).1.cnt = (walkLoop e t true (e.size.toNat + 3) (σ.setT t (σ.tst t))
      { cur := (initCursor e σ t).1, offset := (initCursor e σ t).2 }).1.cnt := by
  obtain ⟨hin, hfin, heq⟩ := scheduleTask_ok e wf σ t hnd hok
  have hw := walkStart_walkOk e wf σ t
  rw [hf] at hfin heq
  rw [walkStart_alloc e σ t ha] at hin hw hfin heq
  exact ⟨hin, hw, hfin, by rw [heq, setT_led], by rw [heq, setT_cnt]⟩

/-- **one forward task, no idle slot**: the slots `cursor, cursor+1, …` up to the finishing slot are visited in order, and
    in the final ledger of `scheduleTask` a visited slot carries an entry of the task on `r` iff the gate was open when
    it was visited -/
theorem scheduleTask_no_idle (e : Env) (wf : WF e) (σ : St) (t r : Nat)
    (hinv : Inv e σ) (hel : Elig e t r) (hf : (σ.tst t).forward = true)
    (hnd : (σ.tst t).done = false) (hclean : ∀ i, usageOf (σ.led.get r i).usage t = none)
    (hok : (scheduleTask e σ t).2 = true) :
    ∀ p ∈ walkVisits e t (e.size.toNat + 3) (σ.setT t (σ.tst t))
        { cur := (initCursor e σ t).1, offset := (initCursor e σ t).2 },
      (usageOf ((scheduleTask e σ t).1.led.get r p.2.cur).usage t ≠ none ↔ gate e p.1 t p.2 r = true) := by
  obtain ⟨-, hw, -, hled, -⟩ := scheduleTask_forward_ok e wf σ t hel.alloc hf hnd hok
  rw [hled, walkVisits_eq]
  exact walk_no_idle e wf t r true _ _ _ [] (inv_setT _ _ hinv) hel.leaf hw hel.alloc hel.nomile (hel.sel _ _) hel.effort
    hel.effort (acc_start e _ t r true _ rfl hclean)

end SP
