import Model.Cli
import Proofs.Cli
import Proofs.CliClean
/-!
The output contract of `plan report` as a table (`expectedExit`, `expectedStdout`, in program order over `accepted`, the
input as far as it is accepted, and the fault points) and the proof that the effect program realises it (`run_contract`,
for a `WellFormed` configuration), by Floyd-style assertions.  A rejected input: `Rej`, `run_rejected`.  An accepted one:
`Good` says, program point by program point, what is known when control is there (`Passed k`: the first `k` fault points
lie behind); `good_step` checks every statement against it.  Used by Properties/C19.lean.
-/
set_option linter.unusedSimpArgs false
namespace SP.Cli
variable {B R : Type}

/-- the bytes `plan` goes on to process, or `none` when the input is rejected up front -/
def accepted (env : Env B R) (c : Config B) (fs0 : FS B R) : Option B :=
  match c.channel with
  | .stdin => if env.blank c.stdin then none else some (env.stdinCopy c.stdin)
  | .file =>
    match fs0 c.inPath with
    | some (.file (.raw b)) => if env.empty b then none else some b
    | _ => none

/-- faults between "input accepted and hashed" and "engine has produced the report file" -/
def midFaults : List Fault := [.mkdtemp, .copyRead, .mkstempAuto, .copyWrite, .engineRaise, .engineNoOutput]

/-- **the exit-code contract** (stdout target), in program order: the first thing that goes wrong decides -/
def expectedExit (env : Env B R) (c : Config B) (fs0 : FS B R) : Nat :=
  match accepted env c fs0 with
  | none => 1                                                                  -- missing / directory / empty / blank stdin
  | some b =>
    if c.channel = .stdin ∧ (c.fault = .stdinMkstemp ∨ c.fault = .stdinWrite) then 2
    else if c.fault = .readInput then 1                                        -- unreadable input
    else if c.fault ∈ midFaults then 2
    else if env.engineOk b = false then 2                                      -- syntax error, engine failure
    else if c.fault = .readReport then 2
    else if c.fault = .echo then 2
    else 0

/-- **the stdout contract**: the auto report of the accepted bytes on success, nothing otherwise -/
def expectedStdout (env : Env B R) (c : Config B) (fs0 : FS B R) : List (Emitted R) :=
  match accepted env c fs0 with
  | none => []
  | some b =>
    if expectedExit env c fs0 = 0 then
      [⟨c.fmt, (match c.fmt with | .json => some (env.H b) | .csv => none), env.autoBody b c.fmt⟩]
    else []

theorem expectedExit_none {env : Env B R} {c : Config B} {fs0 : FS B R} (h : accepted env c fs0 = none) :
    expectedExit env c fs0 = 1 := by
  unfold expectedExit; rw [h]

theorem ite_or {α : Type} {p q : Prop} [Decidable p] [Decidable q] (a b : α) :
    (if p ∨ q then a else b) = if p then a else if q then a else b := by
  by_cases hp : p <;> by_cases hq : q <;> simp [hp, hq]

/-- the table for an accepted input, with the four rows that say 2 after the hash in one -/
theorem expectedExit_some {env : Env B R} {c : Config B} {fs0 : FS B R} {b : B} (h : accepted env c fs0 = some b) :
    expectedExit env c fs0 =
      if c.channel = .stdin ∧ (c.fault = .stdinMkstemp ∨ c.fault = .stdinWrite) then 2
      else if c.fault = .readInput then 1
      else if c.fault ∈ midFaults ∨ env.engineOk b = false ∨ c.fault = .readReport ∨ c.fault = .echo then 2
      else 0 := by
  unfold expectedExit; rw [h]
  simp only [ite_or]

structure WellFormed (c : Config B) (fs0 : FS B R) : Prop where
  inp : ∃ n, c.inPath = .user n
  raw : ∀ x, fs0 c.inPath = some (.file x) → ∃ b, x = .raw b
  out : c.out = none
  fresh : Fresh c.pid fs0

/-- the assertion for a rejected input: control goes `start [→ validate] → h1 fnf → h2 → h3 → exited`
    and nothing is printed -/
def Rej (c : Config B) (fs0 : FS B R) (s : Local B R × FS B R) : Prop :=
  s.1.stdout = [] ∧
  match s.1.pc with
  | .start => s.2 = fs0
  | .validate => c.channel = .file ∧ s.2 = fs0
  | .h1 e | .h2 e | .h3 e => e = .fnf
  | .exited => s.1.exit = some 1
  | _ => False

theorem rej_step (env : Env B R) (c : Config B) (fs0 : FS B R) (hwf : WellFormed c fs0)
    (hacc : accepted env c fs0 = none) (s : Local B R × FS B R) (h : Rej c fs0 s) :
    Rej c fs0 (step env .repaired c s) := by
  obtain ⟨⟨pc⟩, fs⟩ := s
  obtain ⟨hst, h⟩ := h
  simp only at hst
  unfold accepted at hacc
  cases pc with
  | start =>
    cases hch : c.channel
    · simpa [Rej, step, stepCore, goto, hch, hst] using h
    · have hb : env.blank c.stdin = true := by simpa [hch] using hacc
      simp [Rej, step, stepCore, raise, hch, hb, hst]
  | validate =>
    obtain ⟨hch, (hfs : fs = fs0)⟩ := h
    rw [hfs]
    rw [hch] at hacc
    cases hnode : fs0 c.inPath with
    | none => simp [Rej, step, stepCore, raise, viewOf, hnode, hst]
    | some nd =>
      cases nd with
      | dir => simp [Rej, step, stepCore, raise, viewOf, hnode, hst]
      | file x =>
        obtain ⟨b, rfl⟩ := hwf.raw x hnode
        have he : env.empty b = true := by simpa [hnode] using hacc
        simp [Rej, step, stepCore, raise, viewOf, hnode, he, hst]
  | h1 e | h2 e | exited => simpa [Rej, step, stepCore, hst] using h
  | h3 e =>
    obtain rfl : e = .fnf := h
    simp [Rej, step, stepCore, hst, Exc.code]
  | _ => exact h.elim

theorem run_rejected (env : Env B R) (c : Config B) (fs0 : FS B R) (hwf : WellFormed c fs0)
    (hacc : accepted env c fs0 = none) :
    (run env .repaired c fs0).1.exit = some 1 ∧ (run env .repaired c fs0).1.stdout = [] := by
  have hr : Rej c fs0 (run env .repaired c fs0) := by
    unfold run
    generalize fuel = k
    induction k with
    | zero => exact ⟨rfl, rfl⟩
    | succ k ih => exact rej_step env c fs0 hwf hacc _ ih
  have hx := run_exited env .repaired c fs0
  generalize run env .repaired c fs0 = s at hr hx
  obtain ⟨hst, h⟩ := hr
  rw [hx] at h
  exact ⟨h, hst⟩

/-- what is known about the configuration when control has reached the point after which `k`
    potential failures lie behind (program order) -/
def Passed (env : Env B R) (c : Config B) (b : B) : Nat → Prop
  | 0 => True
  | 1 => ¬(c.channel = .stdin ∧ (c.fault = .stdinMkstemp ∨ c.fault = .stdinWrite))   -- at `hash`
  | 2 => Passed env c b 1 ∧ c.fault ≠ .readInput                                       -- at `mkOutDir`
  | 3 => Passed env c b 2 ∧ c.fault ≠ .mkdtemp                                         -- at `autoA`
  | 4 => Passed env c b 3 ∧ c.fault ≠ .copyRead                                        -- at `autoB`
  | 5 => Passed env c b 4 ∧ c.fault ≠ .mkstempAuto                                     -- at `autoC`
  | 6 => Passed env c b 5 ∧ c.fault ≠ .copyWrite                                       -- at `engine`
  | 7 => Passed env c b 6 ∧ c.fault ≠ .engineRaise                                     -- at `select`
  | 8 => Passed env c b 7 ∧ c.fault ≠ .engineNoOutput ∧ env.engineOk b = true          -- at `readRep`
  | 9 => Passed env c b 8 ∧ c.fault ≠ .readReport                                      -- at `emit`
  | _ + 10 => False

def autoNode (env : Env B R) (c : Config B) (b : B) : Option (Node B R) :=
  some (.file (.report c.rid (env.autoBody b c.fmt)))

def emitted (env : Env B R) (c : Config B) (b : B) : Emitted R :=
  ⟨c.fmt, (match c.fmt with | .json => some (env.H b) | .csv => none), env.autoBody b c.fmt⟩

/-- the assertion attached to each program point (for a run whose input `b` was accepted) -/
def Good (env : Env B R) (c : Config B) (fs0 : FS B R) (b : B) (s : Local B R × FS B R) : Prop :=
  let nodir := ∀ f, s.2 (.inDir c.pid f) = none
  let tjp := tjpNode c (viewOf c s.2) = some (.file (.raw b))
  match s.1.pc with
  | .start => s.1.stdout = [] ∧ s.2 = fs0
  | .validate => c.channel = .file ∧ s.1.stdout = [] ∧ s.2 = fs0
  | .stdinMk => c.channel = .stdin ∧ s.1.stdout = [] ∧ s.2 = fs0
  | .stdinWrite => c.channel = .stdin ∧ c.fault ≠ .stdinMkstemp ∧ s.1.stdout = [] ∧ nodir
  | .hash => Passed env c b 1 ∧ s.1.stdout = [] ∧ nodir ∧ tjp
  | .mkOutDir => Passed env c b 2 ∧ s.1.stdout = [] ∧ nodir ∧ tjp ∧ s.1.hash = some (env.H b)
  | .autoA => Passed env c b 3 ∧ s.1.stdout = [] ∧ nodir ∧ tjp ∧ s.1.hash = some (env.H b)
  | .autoB => Passed env c b 4 ∧ s.1.stdout = [] ∧ nodir ∧ s.1.hash = some (env.H b) ∧ s.1.orig = some b
  | .autoC => Passed env c b 5 ∧ s.1.stdout = [] ∧ nodir ∧ s.1.hash = some (env.H b) ∧ s.1.orig = some b
  | .engine => Passed env c b 6 ∧ s.1.stdout = [] ∧ nodir ∧ s.1.hash = some (env.H b) ∧
      s.2 (.tmp c.pid .autoCopy) = some (.file (.combined b c.rid c.fmt))
  | .select => Passed env c b 7 ∧ s.1.stdout = [] ∧ s.1.hash = some (env.H b) ∧
      ((c.fault = .engineNoOutput ∧ nodir) ∨
       (c.fault ≠ .engineNoOutput ∧ env.engineOk b = true ∧
        s.2 (.inDir c.pid (fileName c.rid c.fmt)) = autoNode env c b))
  | .readRep => Passed env c b 8 ∧ s.1.stdout = [] ∧ s.1.hash = some (env.H b) ∧
      s.1.sel = some (fileName c.rid c.fmt) ∧ s.2 (.inDir c.pid (fileName c.rid c.fmt)) = autoNode env c b
  | .emit => Passed env c b 9 ∧ s.1.stdout = [] ∧ s.1.content = some (emitted env c b)
  | .rmOut | .rmAuto | .rmIn => expectedExit env c fs0 = 0 ∧ s.1.stdout = expectedStdout env c fs0
  | .h1 e | .h2 e | .h3 e => e.code = expectedExit env c fs0 ∧ s.1.stdout = [] ∧ expectedStdout env c fs0 = []
  | .exited => s.1.exit = some (expectedExit env c fs0) ∧ s.1.stdout = expectedStdout env c fs0

theorem good_init (env : Env B R) (c : Config B) (fs0 : FS B R) (b : B) : Good env c fs0 b ({}, fs0) := by
  simp [Good]

-- `Good … (run …)` must never be unfolded by the elaborator's `whnf` (it would evaluate the run)
attribute [irreducible] Good

/-- what `accepted = some b` and well-formedness say, in the form the step lemmas use -/
structure Acc (env : Env B R) (c : Config B) (fs0 : FS B R) (b : B) (n : Nat) : Prop where
  hn : c.inPath = .user n
  hout : c.out = none
  hf1 : ∀ k, fs0 (.tmp c.pid k) = none
  hf2 : ∀ f, fs0 (.inDir c.pid f) = none
  hS : c.channel = .stdin → env.blank c.stdin = false ∧ env.stdinCopy c.stdin = b
  hFi : c.channel = .file → fs0 (.user n) = some (.file (.raw b)) ∧ env.empty b = false
  hacc : accepted env c fs0 = some b

theorem good_step (env : Env B R) (c : Config B) (fs0 : FS B R) (b : B) {n : Nat} (a : Acc env c fs0 b n)
    (s : Local B R × FS B R) (h : Good env c fs0 b s) : Good env c fs0 b (step env .repaired c s) := by
  obtain ⟨⟨pc⟩, fs⟩ := s
  obtain ⟨hn, hout, hf1, hf2, hS, hFi, hacc⟩ := a
  cases pc with
  -- cleanup: the assertion speaks of stdout and the exit code only, and only the last step sets the latter
  | rmOut | rmAuto | h1 e | h2 e | exited =>
    simp only [step, stepCore, Good] at h ⊢
    exact h
  | rmIn =>
    simp only [step, stepCore, Good] at h ⊢
    exact ⟨by rw [h.1], h.2⟩
  | h3 e =>
    simp only [step, stepCore, Good] at h ⊢
    exact ⟨by rw [h.1], by rw [h.2.1, h.2.2]⟩
  | validate =>
    simp only [Good] at h
    obtain ⟨hch, hst, rfl⟩ := h
    obtain ⟨hnode, hemp⟩ := hFi hch
    simp [step, stepCore, goto, viewOf, hn, hnode, hemp, Good, Passed, tjpNode, hch, hst, hf2]
  | hash =>
    simp only [Good] at h
    obtain ⟨hp, hst, hnd, htj⟩ := h
    simp only [Passed] at hp
    by_cases hfl : c.fault = .readInput
    · simp [step, stepCore, raise, hfl, Variant.repaired, Good, Exc.code, expectedExit, expectedStdout, hacc, hst, hp]
    · simp [step, stepCore, hfl, htj, Good, Passed, hst, hp]
      exact hnd
  | autoA =>
    simp only [Good] at h
    obtain ⟨hp, hst, hnd, htj, hh⟩ := h
    simp only [Passed] at hp
    by_cases hfl : c.fault = .copyRead
    · simp [step, stepCore, raise, hfl, Variant.repaired, Good, Exc.code, expectedExit, expectedStdout, hacc, hst, hp, midFaults]
    · simp [step, stepCore, hfl, htj, Variant.repaired, Good, Passed, hst, hp, hh]
      exact hnd
  | engine =>
    simp only [Good] at h
    obtain ⟨hp, hst, hnd, hh, hfa⟩ := h
    simp only [Passed] at hp
    by_cases h1 : c.fault = .engineRaise
    · simp [step, stepCore, raise, h1, Good, Exc.code, expectedExit, expectedStdout, hacc, hst, hp, midFaults]
    · by_cases h2 : c.fault = .engineNoOutput
      · simp [step, stepCore, goto, h1, h2, Good, Passed, hst, hp, hh]
        exact hnd
      · cases hok : env.engineOk b
        · simp [step, stepCore, raise, viewOf, h1, h2, hfa, hok, Good, Exc.code, expectedExit, expectedStdout, hacc, hst, hp, midFaults]
        · simp [step, stepCore, viewOf, h1, h2, hfa, hok, Good, Passed, hst, hp, hh, engine_auto, autoNode]
  | select =>
    simp only [Good] at h
    obtain ⟨hp, hst, hh, hd⟩ := h
    simp only [Passed] at hp
    rcases hd with ⟨h2, hnd⟩ | ⟨h2, hok, hau⟩
    · simp [step, stepCore, raise, viewOf, Variant.repaired, hnd, isFile, h2, Good, Exc.code, expectedExit, expectedStdout, hacc, hst, hp, midFaults]
    · simp [step, stepCore, viewOf, Variant.repaired, hau, autoNode, isFile, h2, hok, Good, Passed, hst, hp, hh]
  | autoB =>
    simp only [Good] at h
    obtain ⟨hp, hst, hnd, hh, ho⟩ := h
    simp only [Passed] at hp
    by_cases hfl : c.fault = .mkstempAuto
    · simp [step, stepCore, raise, hfl, Variant.repaired, Good, Exc.code, expectedExit, expectedStdout, hacc, hst, hp, midFaults]
    · simp [step, stepCore, hfl, Variant.repaired, Good, Passed, hst, hp, hh, ho, tp]
      exact hnd
  | autoC =>
    simp only [Good] at h
    obtain ⟨hp, hst, hnd, hh, ho⟩ := h
    simp only [Passed] at hp
    subst ho
    by_cases hfl : c.fault = .copyWrite
    · simp [step, stepCore, hfl, Variant.repaired, Good, Exc.code, expectedExit, expectedStdout, hacc, hst, hp, midFaults]
    · simp [step, stepCore, hfl, Variant.repaired, Good, Passed, hst, hp, hh, tp]
      exact hnd
  | readRep =>
    simp only [Good] at h
    obtain ⟨hp, hst, hh, hs, hau⟩ := h
    simp only [Passed] at hp
    by_cases hfl : c.fault = .readReport
    · simp [step, stepCore, raise, hfl, Good, Exc.code, expectedExit, expectedStdout, hacc, hst, hp, midFaults]
    · subst hh hs
      simp [step, stepCore, hfl, viewOf, hau, autoNode, Good, Passed, hst, hp, emitted]
      cases c.fmt <;> rfl
  | emit =>
    simp only [Good] at h
    obtain ⟨hp, hst, hc⟩ := h
    simp only [Passed] at hp
    subst hc hst
    by_cases hfl : c.fault = .echo
    · simp [step, stepCore, raise, hout, hfl, Good, Exc.code, expectedExit, expectedStdout, hacc, hp, midFaults]
    · simp [step, stepCore, hout, hfl, Good, expectedExit, expectedStdout, hacc, hp, midFaults, emitted]
  | mkOutDir =>
    simp only [Good] at h
    obtain ⟨hp, hst, hnd, htj, hh⟩ := h
    simp only [Passed] at hp
    by_cases hfl : c.fault = .mkdtemp
    · simp [step, stepCore, raise, hfl, Good, Exc.code, expectedExit, expectedStdout, hacc, hst, hp, midFaults]
    · simp [step, stepCore, hfl, Good, Passed, hst, hp, hh, tp]
      refine ⟨hnd, ?_⟩
      cases hch : c.channel <;> simpa [tjpNode, viewOf, Op.apply, hn, hch] using htj
  | stdinMk =>
    simp only [Good] at h
    obtain ⟨hch, hst, rfl⟩ := h
    by_cases hfl : c.fault = .stdinMkstemp
    · simp [step, stepCore, raise, hfl, Good, Exc.code, expectedExit, expectedStdout, hacc, hst, hch, midFaults]
    · simp [step, stepCore, hfl, Good, hst, hch, tp]
      exact hf2
  | stdinWrite =>
    simp only [Good] at h
    obtain ⟨hch, hmk, hst, hnd⟩ := h
    by_cases hfl : c.fault = .stdinWrite
    · simp [step, stepCore, raise, hfl, Good, Exc.code, expectedExit, expectedStdout, hacc, hst, hch, midFaults]
    · simp [step, stepCore, hfl, Good, Passed, hst, hch, hmk, tp]
      exact ⟨hnd, by simp [tjpNode, viewOf, Op.apply, hch, (hS hch).2]⟩
  | start =>
    simp only [Good] at h
    obtain ⟨hst, rfl⟩ := h
    cases hch : c.channel with
    | file => simp [step, stepCore, goto, hch, Good, hst]
    | stdin => simp [step, stepCore, goto, hch, (hS hch).1, Good, hst]

theorem good_run (env : Env B R) (c : Config B) (fs0 : FS B R) (b : B) {n : Nat} (a : Acc env c fs0 b n) :
    Good env c fs0 b (run env .repaired c fs0) := by
  unfold run
  generalize fuel = k
  induction k with
  | zero => exact good_init env c fs0 b
  | succ k ih => exact good_step env c fs0 b a _ ih

theorem acc_of_accepted (env : Env B R) (c : Config B) (fs0 : FS B R) (b : B) (hwf : WellFormed c fs0)
    (hacc : accepted env c fs0 = some b) : ∃ n, Acc env c fs0 b n := by
  obtain ⟨n, hn⟩ := hwf.inp
  refine ⟨n, hn, hwf.out, fun k => hwf.fresh _ (by simp [owns]), fun f => hwf.fresh _ (by simp [owns]), ?_, ?_, hacc⟩
  · intro hch
    simp only [accepted, hch] at hacc
    cases hb : env.blank c.stdin <;> simp_all
  · intro hch
    simp only [accepted, hch, hn] at hacc
    split at hacc
    · rename_i b' hb'
      cases he : env.empty b' <;> simp_all
    · simp at hacc

/-- **The contract.**  For every environment, every input and every fault point: the exit code and
    the bytes on stdout of a solitary `plan report` run (stdout target) are the ones in the table. -/
theorem run_contract (env : Env B R) (c : Config B) (fs0 : FS B R) (hwf : WellFormed c fs0) :
    (run env .repaired c fs0).1.exit = some (expectedExit env c fs0) ∧
    (run env .repaired c fs0).1.stdout = expectedStdout env c fs0 := by
  cases hacc : accepted env c fs0 with
  | none =>
    have := run_rejected env c fs0 hwf hacc
    simp [expectedExit, expectedStdout, hacc, this]
  | some b =>
    obtain ⟨n, a⟩ := acc_of_accepted env c fs0 b hwf hacc
    have hg : Good env c fs0 b (run env .repaired c fs0) := good_run env c fs0 b a
    have hx : (run env .repaired c fs0).1.pc = .exited := run_exited env .repaired c fs0
    generalize run env .repaired c fs0 = s at hg hx
    obtain ⟨l, fs⟩ := s
    simp only at hx
    simp only [Good, hx] at hg
    exact hg

end SP.Cli
