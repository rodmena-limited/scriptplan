import Proofs.Walk
/-!
Team bookings, slot level: `reserveAt` and the levelling fold read slot by slot (`reserveAt_get`, `foldReserve_get`); after
`levelTeam` every member's slot is used up to the same instant `teamCommon`, which leaves room when every member had some
(`levelTeam_used`, `teamCommon_room`); a passing team gate means every member has time left (`teamGateOk_avail`); what the
gate's provisional counting and `incAll` do to one counter; the tail release of `finishTask` slot by slot (`finishTask_slot`).
-/
namespace SP

theorem reserveAt_get (σ : St) (r : Nat) (i : Int) (c : Rat) (r' : Nat) (i' : Int) :
    (reserveAt σ r i c).led.get r' i' = if r = r' ∧ i = i' then (σ.led.get r i).reserve c else σ.led.get r' i' := by
  unfold reserveAt
  simp only [Ledger.get_set]

theorem foldReserve_get (l : List Nat) (σ : St) (cur : Int) (c : Rat) (r : Nat) :
    ((l.foldl (fun acc m => reserveAt acc m cur c) σ).led.get r cur) =
      if r ∈ l then (σ.led.get r cur).reserve c else σ.led.get r cur := by
  induction l generalizing σ with
  | nil => simp
  | cons m ms ih =>
    simp only [List.foldl_cons]
    rw [ih]
    simp only [reserveAt_get]
    by_cases hm : m = r
    · subst hm
      simp only [and_self, if_true, List.mem_cons, true_or]
      split
      · exact reserve_idem _ _
      · rfl
    · have h2 : (r ∈ m :: ms) ↔ r ∈ ms := by
        simp only [List.mem_cons]
        constructor
        · rintro (h | h)
          · exact absurd h.symm hm
          · exact h
        · exact Or.inr
      simp only [hm, false_and, if_false, h2]

/-! slots other than `cur` are untouched by levelling -/

theorem reserveAt_other (σ : St) (r : Nat) (i : Int) (c : Rat) (r' : Nat) (i' : Int) (h : i' ≠ i) :
    (reserveAt σ r i c).led.get r' i' = σ.led.get r' i' := by
  rw [reserveAt_get]
  have : ¬ (r = r' ∧ i = i') := fun hh => h hh.2.symm
  simp [this]

theorem foldl_slotframe {α : Type} (f : St → α → St) (l : List α) (σ : St) (r' : Nat) (i' : Int)
    (hf : ∀ acc a, (f acc a).led.get r' i' = acc.led.get r' i') : (l.foldl f σ).led.get r' i' = σ.led.get r' i' :=
  foldl_inv (fun s => s.led.get r' i' = σ.led.get r' i') f l σ rfl fun b a hb => (hf b a).trans hb

theorem levelTeam_other (σ : St) (cur : Int) (sel : List Nat) (r' : Nat) (i' : Int) (h : i' ≠ cur) :
    (levelTeam σ cur sel).led.get r' i' = σ.led.get r' i' := by
  unfold levelTeam
  exact foldl_slotframe _ sel σ r' i' (fun acc m => reserveAt_other acc m cur _ r' i' h)

theorem foldMax_ge_init (l : List Nat) (f : Nat → Rat) (m0 : Rat) : m0 ≤ l.foldl (fun m r => max m (f r)) m0 := by
  induction l generalizing m0 with
  | nil => exact Rat.le_refl
  | cons x xs ih =>
    simp only [List.foldl_cons]
    have := ih (max m0 (f x))
    grind

theorem foldMax_ge_mem (l : List Nat) (f : Nat → Rat) (m0 : Rat) (r : Nat) (h : r ∈ l) :
    f r ≤ l.foldl (fun m r => max m (f r)) m0 := by
  induction l generalizing m0 with
  | nil => cases h
  | cons x xs ih =>
    simp only [List.foldl_cons]
    rcases List.mem_cons.mp h with h | h
    · subst h
      have := foldMax_ge_init xs f (max m0 (f r))
      grind
    · exact ih _ h

theorem le_teamCommon (σ : St) (cur : Int) (sel : List Nat) (r : Nat) (h : r ∈ sel) :
    (σ.led.get r cur).used ≤ teamCommon σ cur sel :=
  foldMax_ge_mem sel (fun r => (σ.led.get r cur).used) 0 r h

theorem teamCommon_room (e : Env) (wf : WF e) (σ : St) (cur : Int) (sel : List Nat)
    (h : ∀ m ∈ sel, availSecs e.G (σ.led.get m cur) > 0) : teamCommon σ cur sel ≤ (e.G : Rat) - 1 / 1000000 := by
  have hG : (1 : Rat) ≤ (e.G : Rat) := by exact_mod_cast (wf.G_pos : (1 : Int) ≤ e.G)
  exact teamCommon_le σ cur sel _ (by grind) (fun m hm => (availSecs_pos_iff e.G _).mp (h m hm))

/-- **after levelling every member's slot is used up to the same instant** -/
theorem levelTeam_used (σ : St) (cur : Int) (sel : List Nat) (r : Nat) (h : r ∈ sel) :
    ((levelTeam σ cur sel).led.get r cur).used = teamCommon σ cur sel := by
  unfold levelTeam
  rw [foldReserve_get]
  simp only [h, if_true]
  exact reserve_used _ _ (le_teamCommon σ cur sel r h)

theorem levelTeam_usage (σ : St) (cur : Int) (sel : List Nat) (r : Nat) (i : Int) :
    ((levelTeam σ cur sel).led.get r i).usage = (σ.led.get r i).usage := by
  by_cases hi : i = cur
  · subst hi
    unfold levelTeam
    rw [foldReserve_get]
    split
    · unfold Slot.reserve; split <;> rfl
    · rfl
  · rw [levelTeam_other σ cur sel r i hi]

theorem countMember_led (e : Env) (σ : St) (t : Nat) (i : Int) (r : Nat) : (countMember e σ t i r).led = σ.led := by
  rw [countMember_eq, incAll_led]

theorem countMember_marks (e : Env) (σ : St) (t : Nat) (i : Int) (r : Nat) : (countMember e σ t i r).marks = σ.marks := by
  rw [countMember_eq, incAll_marks]

theorem teamGateOk_avail (e : Env) (t : Nat) (i : Int) (σ : St) (sel : List Nat) (h : teamGateOk e t i σ sel = true) :
    ∀ m ∈ sel, availSecs e.G (σ.led.get m i) > 0 := by
  induction sel generalizing σ with
  | nil => intro m hm; cases hm
  | cons r rs ih =>
    unfold teamGateOk at h
    simp only [Bool.and_eq_true] at h
    intro m hm
    rcases List.mem_cons.mp hm with hm | hm
    · subst hm
      have := h.1.1
      unfold available at this
      simp only [Bool.and_eq_true, decide_eq_true_eq] at this
      exact this.1.1.2
    · have := ih (countMember e σ t i r) h.2 m hm
      rw [countMember_led] at this
      exact this

/-- a limit that applies (no resource filter, or the filter matches) is incremented by exactly one -/
theorem limitInc_cnt_same (e : Env) (σ : St) (lid : Nat) (i : Int) (r : Option Nat)
    (happ : ((e.limitD lid).res.isSome && (e.limitD lid).res != r) = false) (hk : 0 ≤ e.period (e.limitD lid) i) :
    (limitInc e σ lid i r).cnt.get lid (e.period (e.limitD lid) i) = σ.cnt.get lid (e.period (e.limitD lid) i) + 1 := by
  unfold limitInc
  simp only [happ, Bool.false_eq_true, if_false]
  have : ¬ e.period (e.limitD lid) i < 0 := by omega
  simp only [this, if_false, Counters.get_set, and_self, if_true]

theorem incAll_cnt_notin (e : Env) (σ : St) (ps : List (Nat × Option Nat)) (i : Int) (lid : Nat) (k : Int)
    (h : lid ∉ ps.map (·.1)) : (incAll e σ ps i).cnt.get lid k = σ.cnt.get lid k := by
  induction ps generalizing σ with
  | nil => rfl
  | cons p ps ih =>
    simp only [incAll, List.foldl_cons]
    have h1 : lid ≠ p.1 := by intro heq; apply h; simp [heq]
    have h2 : lid ∉ ps.map (·.1) := by intro hm; apply h; simp only [List.map_cons, List.mem_cons]; exact Or.inr hm
    have := ih (limitInc e σ p.1 i p.2) h2
    simp only [incAll] at this
    rw [this, limitInc_cnt_other e σ p.1 i p.2 lid k h1]

/-- over a duplicate-free list of limits the counters of `lid` are touched once, by the `limitInc` of the pair that names it -/
theorem incAll_cnt_at (e : Env) (σ : St) (ps : List (Nat × Option Nat)) (i : Int) (lid : Nat) (r : Option Nat) (k : Int)
    (hnd : (ps.map (·.1)).Nodup) (hm : (lid, r) ∈ ps) :
    ∃ σ' : St, σ'.cnt.get lid k = σ.cnt.get lid k ∧ (incAll e σ ps i).cnt.get lid k = (limitInc e σ' lid i r).cnt.get lid k := by
  induction ps generalizing σ with
  | nil => cases hm
  | cons p ps ih =>
    obtain ⟨hnotin, hnd'⟩ := List.nodup_cons.mp hnd
    rcases List.mem_cons.mp hm with hp | hp
    · subst hp
      exact ⟨σ, rfl, incAll_cnt_notin e (limitInc e σ lid i r) ps i lid k hnotin⟩
    · have hne : lid ≠ p.1 := by
        intro heq
        apply hnotin
        show p.1 ∈ ps.map (·.1)
        rw [← heq]
        exact List.mem_map_of_mem (f := (·.1)) hp
      obtain ⟨σ', h1, h2⟩ := ih (limitInc e σ p.1 i p.2) hnd' hp
      exact ⟨σ', h1.trans (limitInc_cnt_other e σ p.1 i p.2 lid k hne), h2⟩

theorem incAll_cnt_mem (e : Env) (σ : St) (ps : List (Nat × Option Nat)) (i : Int) (lid : Nat) (r : Option Nat)
    (hnd : (ps.map (·.1)).Nodup) (hm : (lid, r) ∈ ps)
    (happ : ((e.limitD lid).res.isSome && (e.limitD lid).res != r) = false) (hk : 0 ≤ e.period (e.limitD lid) i) :
    (incAll e σ ps i).cnt.get lid (e.period (e.limitD lid) i) = σ.cnt.get lid (e.period (e.limitD lid) i) + 1 := by
  obtain ⟨σ', h1, h2⟩ := incAll_cnt_at e σ ps i lid r _ hnd hm
  rw [h2, limitInc_cnt_same e σ' lid i r happ hk, h1]

theorem finishTask_fst (e : Env) (σ : St) (t : Nat) (w : Walk) (before : Rat) (fwd : Bool) :
    (finishTask e σ t w before fwd).1 =
      match w.last with
      | none => σ
      | some r =>
        releaseOthers { σ with led := σ.led.set r w.cur ((σ.led.get r w.cur).release t (needSecs e σ t w before r)) }
          t w.cur r (needSecs e σ t w before r) (w.selected.getD []) := by
  unfold finishTask
  cases w.last <;> rfl

/-- `releaseOthers` is a sequence of tail releases, each of `min need secs` in the slot `cur` of a member other than `r`
    in which `t` holds `secs`: what every one of them keeps, the whole keeps -/
theorem releaseOthers_ind {Q : St → Prop} {t : Nat} {cur : Int} {r : Nat} {need : Rat}
    (step : ∀ (σ : St) (m : Nat) (secs : Rat), Q σ → m ≠ r → usageOf (σ.led.get m cur).usage t = some secs →
      Q { σ with led := σ.led.set m cur ((σ.led.get m cur).release t (min need secs)) })
    (sel : List Nat) (σ : St) (h : Q σ) : Q (releaseOthers σ t cur r need sel) := by
  unfold releaseOthers
  refine foldl_inv Q _ sel σ h fun acc m hacc => ?_
  by_cases hm : m = r
  · rw [if_pos (beq_iff_eq.mpr hm)]; exact hacc
  · rw [if_neg (fun hb => hm (beq_iff_eq.mp hb))]
    cases hu : usageOf (acc.led.get m cur).usage t with
    | none => exact hacc
    | some secs => exact step acc m secs hacc hm hu

/-- `releaseOthers` changes a slot by `Slot.release t _` only -/
theorem releaseOthers_slot {P : Slot → Prop} {t : Nat} (hP : ∀ s a, P s → P (s.release t a)) (σ : St) (cur : Int) (r : Nat)
    (need : Rat) (sel : List Nat) (m : Nat) (i : Int) (h : P (σ.led.get m i)) :
    P ((releaseOthers σ t cur r need sel).led.get m i) := by
  refine releaseOthers_ind (Q := fun σ => P (σ.led.get m i)) (fun acc x secs hacc _ _ => ?_) sel σ h
  show P ((acc.led.set x cur _).get m i)
  rw [Ledger.get_set]
  split
  · rename_i heq
    obtain ⟨rfl, rfl⟩ := heq
    exact hP _ _ hacc
  · exact hacc

/-- and so does `finishTask` -/
theorem finishTask_slot {P : Slot → Prop} {t : Nat} (hP : ∀ s a, P s → P (s.release t a)) (e : Env) (σ : St) (w : Walk)
    (before : Rat) (fwd : Bool) (m : Nat) (i : Int) (h : P (σ.led.get m i)) :
    P ((finishTask e σ t w before fwd).1.led.get m i) := by
  rw [finishTask_fst]
  cases w.last with
  | none => exact h
  | some r =>
    refine releaseOthers_slot hP _ _ _ _ _ m i ?_
    show P ((σ.led.set r w.cur _).get m i)
    rw [Ledger.get_set]
    split
    · rename_i heq
      obtain ⟨rfl, rfl⟩ := heq
      exact hP _ _ h
    · exact h

end SP
