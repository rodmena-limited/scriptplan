import Model.Resolve
/-!
Reference resolution (`Model/Resolve`, C15): resolution commutes with an injective renaming of the identifiers
(`resolve_map`); a relative reference resolves to what the absolute path it stands for resolves to
(`resolve_rel_abs_pos`); how the dependency store grows by one `precedes` / `depends` item (`StoreRel`); and printing
a reference and parsing it back (`parseRef_renderRef`).
-/
namespace SP.Resolve

variable {α β : Type}

@[simp] theorem TTree.id_node (a : α) (ks : List (TTree α)) : (TTree.node a ks).id = a := rfl
@[simp] theorem TTree.kids_node (a : α) (ks : List (TTree α)) : (TTree.node a ks).kids = ks := rfl

theorem TTree.eta (t : TTree α) : t = .node t.id t.kids := by cases t; rfl

@[simp] theorem TTree.id_map (f : α → β) (t : TTree α) : (t.map f).id = f t.id := by
  cases t; simp [TTree.map]

@[simp] theorem TTree.kids_map (f : α → β) (t : TTree α) : (t.map f).kids = mapForest f t.kids := by
  cases t; simp [TTree.map]

theorem mapForest_eq_map (f : α → β) (ts : List (TTree α)) : mapForest f ts = ts.map (TTree.map f) := by
  induction ts with
  | nil => simp [mapForest]
  | cons t ts ih => simp [mapForest, ih]

@[simp] theorem mapForest_getElem? (f : α → β) (ts : List (TTree α)) (i : Nat) :
    (mapForest f ts)[i]? = (ts[i]?).map (TTree.map f) := by
  rw [mapForest_eq_map]; simp

/-! ### renaming commutes with every step of the resolution -/

mutual
theorem preTree_map (f : α → β) (pos : Pos) : ∀ t : TTree α,
    preTree pos (t.map f) = (preTree pos t).map (fun p => (p.1, p.2.map f))
  | .node a ks => by
    simp only [TTree.map, preTree, List.map_cons, preKids_map f pos 0 ks]
theorem preKids_map (f : α → β) (pre : Pos) : ∀ (i : Nat) (ts : List (TTree α)),
    preKids pre i (mapForest f ts) = (preKids pre i ts).map (fun p => (p.1, p.2.map f))
  | _, [] => by simp [mapForest, preKids]
  | i, t :: ts => by
    simp only [mapForest, preKids, List.map_append, preTree_map f (pre ++ [i]) t, preKids_map f pre (i + 1) ts]
end

section rename
variable [DecidableEq α] [DecidableEq β] (f : α → β) (hf : ∀ a b, f a = f b → a = b)
include hf

theorem findChildFrom_map (x : α) (i : Nat) (ts : List (TTree α)) :
    findChildFrom (f x) i (mapForest f ts) = (findChildFrom x i ts).map (fun p => (p.1, p.2.map f)) := by
  induction ts generalizing i with
  | nil => simp [mapForest, findChildFrom]
  | cons t ts ih =>
    simp only [mapForest, findChildFrom, TTree.id_map]
    by_cases h : t.id = x
    · simp [h]
    · have : f t.id ≠ f x := fun e => h (hf _ _ e)
      simp [h, this, ih]

theorem walk_map (t : TTree α) (pos : Pos) (xs : List α) :
    walk (t.map f) pos (xs.map f) = walk t pos xs := by
  induction xs generalizing t pos with
  | nil => simp [walk]
  | cons x xs ih =>
    simp only [List.map_cons, walk, findChild, TTree.kids_map]
    rw [findChildFrom_map f hf]
    cases h : findChildFrom x 0 t.kids with
    | none => simp
    | some p => simp [ih]

omit hf [DecidableEq α] [DecidableEq β] in
theorem node?_map (F : Forest α) (p : Pos) :
    node? (mapForest f F) p = (node? F p).map (TTree.map f) := by
  induction p generalizing F with
  | nil => simp [node?]
  | cons i rest ih =>
    cases rest with
    | nil => simp [node?]
    | cons j rest =>
      simp only [node?, mapForest_getElem?]
      cases h : F[i]? with
      | none => simp
      | some t => simp [ih]

omit hf [DecidableEq α] [DecidableEq β] in
theorem topsFrom_map (i : Nat) (ts : List (TTree α)) :
    topsFrom i (mapForest f ts) = (topsFrom i ts).map (fun p => (p.1, p.2.map f)) := by
  induction ts generalizing i with
  | nil => simp [mapForest, topsFrom]
  | cons t ts ih => simp [mapForest, topsFrom, ih]

omit hf [DecidableEq α] [DecidableEq β] in
theorem candidates_map (F : Forest α) :
    candidates (mapForest f F) = (candidates F).map (fun p => (p.1, p.2.map f)) := by
  simp only [candidates, tops, preorder, topsFrom_map, preKids_map, List.map_append, List.filter_map]
  rfl

theorem firstMatch_map (cands : List (Pos × TTree α)) (h : α) (rest : List α) :
    firstMatch (cands.map (fun p => (p.1, p.2.map f))) (f h) (rest.map f) = firstMatch cands h rest := by
  induction cands with
  | nil => simp [firstMatch]
  | cons c cs ih =>
    unfold firstMatch at ih ⊢
    rw [List.map_cons, List.find?_cons, List.find?_cons]
    by_cases e : c.2.id = h
    · simp [e, walk_map f hf]
    · have : f c.2.id ≠ f h := fun e' => e (hf _ _ e')
      simp only [TTree.id_map, this, e, decide_false]
      exact ih

theorem resolveRoot_map (F : Forest α) (h : α) (rest : List α) :
    resolveRoot (mapForest f F) (f h) (rest.map f) = resolveRoot F h rest := by
  simp only [resolveRoot, candidates_map, firstMatch_map f hf]

theorem resolveRootPinned_map (F : Forest α) (h : α) (rest : List α) :
    resolveRootPinned (mapForest f F) (f h) (rest.map f) = resolveRootPinned F h rest := by
  simp only [resolveRootPinned, preorder, preKids_map, firstMatch_map f hf]

theorem resolve_map (F : Forest α) (src : Pos) (r : Ref α) :
    resolve (mapForest f F) src (r.map f) = resolve F src r := by
  simp only [resolve, Ref.map, Ref.path]
  cases hb : basePos src r.up with
  | none => simp [resolveRoot_map f hf]
  | some b =>
    simp only [node?_map]
    cases hn : node? F b with
    | none => simp
    | some t =>
      have := walk_map f hf t b (r.head :: r.tail)
      simpa using this

end rename

section relabs
variable [DecidableEq α]

theorem forestUniq_mem {ks : List (TTree α)} (h : forestUniq ks = true) {t : TTree α} (ht : t ∈ ks) :
    t.uniq = true := by
  induction ks with
  | nil => cases ht
  | cons a as ih =>
    simp only [forestUniq, Bool.and_eq_true] at h
    rcases List.mem_cons.mp ht with e | e
    · exact e ▸ h.1
    · exact ih h.2 e

theorem TTree.uniq_kids {t : TTree α} (h : t.uniq = true) :
    sibsDistinct t.kids = true ∧ forestUniq t.kids = true := by
  cases t with
  | node a ks => simpa [TTree.uniq] using h

theorem findChildFrom_of_distinct (ks : List (TTree α)) (hd : (ks.map TTree.id).Nodup)
    (i : Nat) (c : TTree α) (hc : ks[i]? = some c) (j : Nat) :
    findChildFrom c.id j ks = some (j + i, c) := by
  induction ks generalizing i j with
  | nil => simp at hc
  | cons a as ih =>
    cases i with
    | zero =>
      simp only [List.getElem?_cons_zero, Option.some.injEq] at hc
      subst hc
      simp [findChildFrom]
    | succ i =>
      simp only [List.getElem?_cons_succ] at hc
      simp only [List.map_cons, List.nodup_cons] at hd
      have hne : a.id ≠ c.id := by
        intro e
        apply hd.1
        rw [e]
        exact List.mem_map.mpr ⟨c, List.mem_of_getElem? hc, rfl⟩
      simp only [findChildFrom, hne, if_false]
      rw [ih hd.2 i hc (j + 1)]
      congr 2
      omega

theorem findChild_of_distinct (ks : List (TTree α)) (hd : sibsDistinct ks = true)
    (i : Nat) (c : TTree α) (hc : ks[i]? = some c) : findChild ks c.id = some (i, c) := by
  have := findChildFrom_of_distinct ks (by simpa [sibsDistinct] using hd) i c hc 0
  simpa [findChild] using this

omit [DecidableEq α] in
theorem pathIds_cons_some (F : Forest α) (i : Nat) (q : Pos) (ids : List α) (h : pathIds F (i :: q) = some ids) :
    ∃ t l, F[i]? = some t ∧ pathIds t.kids q = some l ∧ ids = t.id :: l := by
  rw [pathIds] at h
  cases ht : F[i]? with
  | none => simp [ht] at h
  | some t =>
    simp only [ht, Option.map_eq_some_iff] at h
    obtain ⟨l, hl, rfl⟩ := h
    exact ⟨t, l, rfl, hl, rfl⟩

theorem walk_down (t : TTree α) (ht : t.uniq = true) (b q : Pos) (ids : List α)
    (hp : pathIds t.kids q = some ids) : walk t b ids = some (b ++ q) := by
  induction q generalizing t b ids with
  | nil =>
    simp only [pathIds, Option.some.injEq] at hp
    subst hp
    simp [walk]
  | cons i rest ih =>
    obtain ⟨c, l, hc, hl, rfl⟩ := pathIds_cons_some _ _ _ _ hp
    have hk := TTree.uniq_kids ht
    have hcu : c.uniq = true := forestUniq_mem hk.2 (List.mem_of_getElem? hc)
    simp only [walk, findChild_of_distinct t.kids hk.1 i c hc]
    rw [ih c hcu (b ++ [i]) l hl]
    simp

theorem topsFrom_find? (x : α) (j : Nat) (F : List (TTree α)) :
    (topsFrom j F).find? (fun p => decide (p.2.id = x)) = (findChildFrom x j F).map (fun p => ([p.1], p.2)) := by
  induction F generalizing j with
  | nil => rfl
  | cons a as ih =>
    rw [topsFrom, List.find?_cons, findChildFrom]
    by_cases h : a.id = x
    · simp [h]
    · simp [h, ih]

/-- an absolute path (ids from the top level) resolves to its task — repaired root search -/
theorem resolveRoot_path (F : Forest α) (hu : UniqueSibs F) (dst : Pos) (h : α) (rest : List α)
    (hp : pathIds F dst = some (h :: rest)) : resolveRoot F h rest = some dst := by
  cases dst with
  | nil => simp [pathIds] at hp
  | cons i q =>
    obtain ⟨t, l, ht, hl, e⟩ := pathIds_cons_some _ _ _ _ hp
    cases e
    have hf : (topsFrom 0 F).find? (fun p => decide (p.2.id = t.id)) = some ([i], t) := by
      rw [topsFrom_find?, findChildFrom_of_distinct F (by simpa [sibsDistinct] using hu.1) i t ht 0, Nat.zero_add]
      rfl
    simp only [resolveRoot, firstMatch, candidates, tops, List.find?_append, hf, Option.some_or]
    have := walk_down t (forestUniq_mem hu.2 (List.mem_of_getElem? ht)) [i] q _ hl
    simpa using this

omit [DecidableEq α] in
theorem climb_none (n : Nat) : climb n none = none := by
  cases n <;> rfl

omit [DecidableEq α] in
theorem climb_succ_some (n : Nat) (b : Pos) : climb (n + 1) (some b) = climb n (parentPos b) := by
  rw [climb]
  cases parentPos b with
  | none => rw [climb_none]
  | some q => rfl

omit [DecidableEq α] in
theorem climb_some (n : Nat) (b : Pos) (hb : b ≠ [] ∨ 0 < n) :
    climb n (some b) = if n < b.length then some (b.take (b.length - n)) else none := by
  induction n generalizing b with
  | zero =>
    have : 0 < b.length := List.length_pos_iff.mpr (hb.resolve_right (Nat.lt_irrefl 0))
    simp [climb, this]
  | succ n ih =>
    rw [climb_succ_some, parentPos]
    by_cases h1 : b.length ≤ 1
    · rw [if_pos h1, climb_none, if_neg (by omega)]
    · have hne : b.dropLast ≠ [] := by
        intro e
        have := congrArg List.length e
        rw [List.length_dropLast, List.length_nil] at this
        omega
      rw [if_neg h1, ih _ (Or.inl hne), List.length_dropLast, List.dropLast_eq_take, List.take_take,
        Nat.min_eq_left (Nat.sub_le _ _), Nat.sub_sub, Nat.add_comm 1 n]
      by_cases h2 : n < b.length - 1
      · rw [if_pos h2, if_pos (by omega)]
      · rw [if_neg h2, if_neg (by omega)]

omit [DecidableEq α] in
theorem basePos_eq (src : Pos) (k : Nat) (hk : 1 ≤ k) :
    basePos src k = if k < src.length then some (src.take (src.length - k)) else none := by
  obtain ⟨m, rfl⟩ : ∃ m, k = m + 1 := ⟨k - 1, by omega⟩
  rw [basePos, if_neg (Nat.succ_ne_zero m), Nat.add_sub_cancel, ← climb_succ_some, climb_some _ _ (Or.inr (Nat.succ_pos m))]

theorem pathIds_split (F : Forest α) (b q : Pos) (ids : List α) (hb : b ≠ [])
    (hp : pathIds F (b ++ q) = some ids) :
    ∃ tb, node? F b = some tb ∧ pathIds tb.kids q = some (ids.drop b.length) ∧
      (forestUniq F = true → tb.uniq = true) := by
  induction b generalizing F ids with
  | nil => exact absurd rfl hb
  | cons i b' ih =>
    obtain ⟨t, l, ht, hl, rfl⟩ := pathIds_cons_some _ _ _ _ hp
    cases b' with
    | nil =>
      refine ⟨t, by simp [node?, ht], by simpa using hl, fun hu => forestUniq_mem hu (List.mem_of_getElem? ht)⟩
    | cons j b'' =>
      obtain ⟨tb, h1, h2, h3⟩ := ih t.kids l (by simp) hl
      refine ⟨tb, by simp [node?, ht, h1], by simpa using h2, fun hu => ?_⟩
      exact h3 (TTree.uniq_kids (forestUniq_mem hu (List.mem_of_getElem? ht))).2

omit [DecidableEq α] in
theorem pathIds_length (F : Forest α) (p : Pos) (ids : List α) (h : pathIds F p = some ids) : ids.length = p.length := by
  induction p generalizing F ids with
  | nil =>
    cases h
    rfl
  | cons i q ih =>
    obtain ⟨t, l, _, hl, rfl⟩ := pathIds_cons_some _ _ _ _ h
    rw [List.length_cons, List.length_cons, ih t.kids l hl]

/-- **relative = absolute.**  With unique sibling ids, inside the task at `src` every `!`×k spelling
    whose base (the ancestor `k` levels up, or the project root for `k = depth`) lies above `dst`,
    and the absolute path of `dst`, resolve to `dst`. -/
theorem resolve_rel_abs_pos (F : Forest α) (hu : UniqueSibs F) (src dst : Pos) (ids : List α)
    (hdst : pathIds F dst = some ids) (k : Nat) (hk1 : 1 ≤ k) (hk2 : k ≤ src.length)
    (hanc : src.take (src.length - k) <+: dst) (hlt : src.length - k < dst.length) :
    ∃ rabs rrel, Ref.ofPath 0 ids = some rabs ∧ Ref.ofPath k (ids.drop (src.length - k)) = some rrel ∧
      resolve F src rabs = some dst ∧ resolve F src rrel = some dst := by
  have hlen := pathIds_length F dst ids hdst
  obtain ⟨h, rest, hids⟩ := List.exists_cons_of_ne_nil (List.ne_nil_of_length_pos (l := ids) (by omega))
  have habs : resolve F src ⟨0, h, rest⟩ = some dst := by
    simp only [resolve, basePos, if_true]
    exact resolveRoot_path F hu dst h rest (hids ▸ hdst)
  obtain ⟨q, hq⟩ := hanc
  by_cases hroot : k = src.length
  · -- the `!`s reach the project root: same search as the absolute reference
    have hb : basePos src k = none := by
      rw [basePos_eq src k hk1]; simp [hroot]
    refine ⟨⟨0, h, rest⟩, ⟨k, h, rest⟩, by simp [hids, Ref.ofPath], ?_, habs, ?_⟩
    · simp [hroot, hids, Ref.ofPath]
    · simp only [resolve, hb]
      exact resolveRoot_path F hu dst h rest (hids ▸ hdst)
  · have hklt : k < src.length := by omega
    have hb : basePos src k = some (src.take (src.length - k)) := by
      rw [basePos_eq src k hk1]; simp [hklt]
    have hbne : src.take (src.length - k) ≠ [] := by
      intro e
      have := congrArg List.length e
      simp at this
      omega
    have hblen : (src.take (src.length - k)).length = src.length - k := by simp
    obtain ⟨tb, h1, h2, h3⟩ := pathIds_split F _ q ids hbne (hq ▸ hdst)
    rw [hblen] at h2
    obtain ⟨h', rest', hd'⟩ := List.exists_cons_of_ne_nil (l := ids.drop (src.length - k))
      (by rw [Ne, List.drop_eq_nil_iff]; omega)
    refine ⟨⟨0, h, rest⟩, ⟨k, h', rest'⟩, by simp [hids, Ref.ofPath], by simp [hd', Ref.ofPath], habs, ?_⟩
    simp only [resolve, hb, h1, Ref.path]
    rw [← hd', walk_down tb (h3 hu.2) _ q _ h2, hq]

end relabs

theorem getDeps_extendDeps (st : DepStore) (p : Pos) (l : List DepEntry) (q : Pos) :
    getDeps (extendDeps st p l) q = if q = p then getDeps st p ++ l else getDeps st q := by
  induction st with
  | nil =>
    simp only [extendDeps, getDeps, List.nil_append]
    by_cases h : q = p
    · simp [h]
    · have : ¬ p = q := fun e => h e.symm
      simp [h, this]
  | cons e es ih =>
    simp only [extendDeps]
    by_cases h1 : e.1 = p
    · simp only [h1, if_true, getDeps]
      by_cases h2 : q = p
      · simp [h2]
      · have : ¬ p = q := fun e => h2 e.symm
        simp [h2, this]
    · simp only [h1, if_false, getDeps, ih]
      by_cases h2 : q = p
      · subst h2; simp [h1]
      · simp [h2]

theorem resolveItems_single (F : Forest (List Char)) (src tgt : Pos) (ref : List Char) (o : DepOpts)
    (h : resolveStr F src ref = some tgt) : resolveItems F src [⟨ref, o⟩] = [mkEntry tgt o] := by
  simp [resolveItems, h]

theorem resolveDependencies_snoc (F : Forest (List Char)) (pd : List (Pos × List DepItem)) (B : Pos)
    (items : List DepItem) (st : DepStore) (h : resolveItems F B items ≠ []) :
    resolveDependencies F (pd ++ [(B, items)]) st = extendDeps (resolveDependencies F pd st) B (resolveItems F B items) := by
  simp [resolveDependencies, List.foldl_append, h]

theorem resolvePrecedes_snoc (F : Forest (List Char)) (pp : List (Pos × List DepItem)) (A : Pos) (it : DepItem)
    (st : DepStore) : resolvePrecedes F (pp ++ [(A, [it])]) st = precedeOne F (resolvePrecedes F pp st) A it := by
  simp [resolvePrecedes, List.foldl_append]

@[simp] theorem mkEntry_target (t : Pos) (o : DepOpts) : (mkEntry t o).target = t := by
  unfold mkEntry; split <;> rfl

/-! ### moving one edge from `precedes` to `depends` in a whole project -/

/-- `st'` is `st` with one more entry `e` somewhere in `B`'s list -/
def StoreRel (B : Pos) (e : DepEntry) (st st' : DepStore) : Prop :=
  ∀ q, (getDeps st' q).Perm (if q = B then e :: getDeps st q else getDeps st q)

theorem StoreRel.precedeOne {B : Pos} {e : DepEntry} {st st' : DepStore} (h : StoreRel B e st st')
    (F : Forest (List Char)) (s : Pos) (it : DepItem)
    (hno : ¬ (s = e.target ∧ resolveStr F s it.ref = some B)) :
    StoreRel B e (precedeOne F st s it) (precedeOne F st' s it) := by
  unfold SP.Resolve.precedeOne
  cases hr : resolveStr F s it.ref with
  | none => simpa using h
  | some tgt =>
    simp only []
    have hany : (getDeps st' tgt).any (fun x => decide (x.target = s)) =
        (getDeps st tgt).any (fun x => decide (x.target = s)) := by
      rw [(h tgt).any_eq]
      by_cases ht : tgt = B
      · have : e.target ≠ s := fun e' => hno ⟨e'.symm, ht ▸ hr⟩
        simp [ht, this]
      · simp [ht]
    rw [hany]
    by_cases ha : (getDeps st tgt).any (fun x => decide (x.target = s)) = true
    · simpa [ha] using h
    · simp only [ha, Bool.false_eq_true, if_false]
      intro q
      rw [getDeps_extendDeps, getDeps_extendDeps]
      by_cases hq : q = tgt
      · subst hq
        simp only [if_true]
        have := (h q).append_right [mkEntry s it.opts]
        by_cases hb : q = B
        · simpa [hb] using this
        · simpa [hb] using this
      · simpa [hq] using h q

theorem StoreRel.resolvePrecedes {B : Pos} {e : DepEntry} (F : Forest (List Char))
    (pp : List (Pos × List DepItem))
    (hno : ∀ pi ∈ pp, ∀ it ∈ pi.2, ¬ (pi.1 = e.target ∧ resolveStr F pi.1 it.ref = some B))
    {st st' : DepStore} (h : StoreRel B e st st') :
    StoreRel B e (resolvePrecedes F pp st) (resolvePrecedes F pp st') := by
  unfold SP.Resolve.resolvePrecedes
  induction pp generalizing st st' with
  | nil => simpa using h
  | cons pi rest ih =>
    simp only [List.foldl_cons]
    apply ih (fun pj hj => hno pj (List.mem_cons_of_mem _ hj))
    have hpi := hno pi (List.mem_cons_self ..)
    clear ih hno
    generalize pi.2 = items at hpi
    induction items generalizing st st' with
    | nil => simpa using h
    | cons it its ih2 =>
      simp only [List.foldl_cons]
      exact ih2 (h.precedeOne F pi.1 it (hpi it (List.mem_cons_self ..)))
        (fun it' h' => hpi it' (List.mem_cons_of_mem _ h'))

theorem splitDots_ne_nil (s : List Char) : splitDots s ≠ [] := by
  induction s with
  | nil => simp [splitDots]
  | cons c cs ih =>
    simp only [splitDots]
    split
    · simp
    · split
      · simp
      · simp

theorem splitDots_append_dot (p rest : List Char) (hp : ∀ x ∈ p, x ≠ '.') :
    splitDots (p ++ '.' :: rest) = p :: splitDots rest := by
  induction p with
  | nil => simp [splitDots]
  | cons c cs ih =>
    have hc : c ≠ '.' := hp c (by simp)
    simp only [List.cons_append, splitDots, hc, if_false, ih (fun x hx => hp x (by simp [hx]))]

theorem splitDots_no_dot (p : List Char) (hp : ∀ x ∈ p, x ≠ '.') : splitDots p = [p] := by
  induction p with
  | nil => simp [splitDots]
  | cons c cs ih =>
    have hc : c ≠ '.' := hp c (by simp)
    simp only [splitDots, hc, if_false, ih (fun x hx => hp x (by simp [hx]))]

theorem splitDots_renderPath (h : List Char) (t : List (List Char))
    (hd : ∀ p ∈ h :: t, ∀ x ∈ p, x ≠ '.') : splitDots (renderPath (h :: t)) = h :: t := by
  induction t generalizing h with
  | nil => simpa [renderPath] using splitDots_no_dot h (hd h (by simp))
  | cons q qs ih =>
    simp only [renderPath]
    rw [splitDots_append_dot h _ (hd h (by simp)), ih q (fun p hp => hd p (by simp [hp]))]

theorem countBang_replicate (n : Nat) (rest : List Char) (hr : rest.head? ≠ some '!') :
    countBang (List.replicate n '!' ++ rest) = (n, rest) := by
  induction n with
  | zero =>
    simp only [List.replicate_zero, List.nil_append]
    cases rest with
    | nil => rfl
    | cons c cs =>
      have : c ≠ '!' := by simpa using hr
      unfold countBang
      split
      · next heq => cases heq; exact absurd rfl this
      · rfl
  | succ n ih =>
    simp only [List.replicate_succ, List.cons_append, countBang, ih]

/-- a reference whose ids contain no dot, whose first id is non-empty and does not start with `!`,
    is read back exactly as written -/
theorem parseRef_renderRef (r : Ref (List Char)) (hd : ∀ p ∈ r.path, ∀ x ∈ p, x ≠ '.')
    (hne : r.head ≠ []) (hb : r.head.head? ≠ some '!') : parseRef (renderRef r) = some r := by
  obtain ⟨up, h, t⟩ := r
  simp only [Ref.path] at hd hne hb ⊢
  have hrp : (renderPath (h :: t)).head? ≠ some '!' := by
    cases t with
    | nil => simpa [renderPath] using hb
    | cons q qs =>
      simp only [renderPath]
      cases h with
      | nil => exact absurd rfl hne
      | cons c cs => simpa using hb
  have hne2 : (List.replicate up '!' ++ renderPath (h :: t)).isEmpty = false := by
    have : renderPath (h :: t) ≠ [] := by
      cases t with
      | nil => simpa [renderPath] using hne
      | cons q qs =>
        simp only [renderPath]
        cases h with
        | nil => exact absurd rfl hne
        | cons c cs => simp
    cases hx : renderPath (h :: t) with
    | nil => exact absurd hx this
    | cons c cs => simp
  simp only [parseRef, renderRef, Ref.path, hne2, Bool.false_eq_true, if_false,
    countBang_replicate up _ hrp, splitDots_renderPath h t hd]

end SP.Resolve
