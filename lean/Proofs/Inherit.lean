import Model.Elab
/-!
Top-down inheritance (`inheritOpt`), characterised element by element: a node's effective value is its own if it has one, else
the effective value of its parent (parents precede children).  Used for "the nearest declaration wins" (C02, finding F55).
-/
namespace SP

/-- one step of `inheritOpt` -/
def inhStep {α : Type} (acc : Array (Option α)) (po : Option Nat × Option α) : Array (Option α) :=
  acc.push (match po.2 with
    | some v => some v
    | none => po.1.bind (fun i => (acc[i]?).join))

theorem inheritOpt_eq_foldl {α : Type} (parents : List (Option Nat)) (own : List (Option α)) :
    inheritOpt parents own = (parents.zip own).foldl inhStep #[] := rfl

theorem inh_fold_spec {α : Type} (l : List (Option Nat × Option α)) (acc : Array (Option α)) :
    (l.foldl inhStep acc).size = acc.size + l.length ∧
    (∀ k, k < acc.size → (l.foldl inhStep acc)[k]? = acc[k]?) ∧
    (∀ j (hj : j < l.length), (l.foldl inhStep acc)[acc.size + j]? =
      some (match (l[j]).2 with
        | some v => some v
        | none => (l[j]).1.bind (fun p => if p < acc.size + j then ((l.foldl inhStep acc)[p]?).join else none))) := by
  induction l generalizing acc with
  | nil => exact ⟨rfl, fun k _ => rfl, fun j hj => absurd hj (Nat.not_lt_zero j)⟩
  | cons x xs ih =>
    rw [List.foldl_cons]
    obtain ⟨h1, h2, h3⟩ := ih (inhStep acc x)
    have hsz : (inhStep acc x).size = acc.size + 1 := Array.size_push _
    have hpre : ∀ k, k < acc.size → (inhStep acc x)[k]? = acc[k]? := fun k hk =>
      (Array.getElem?_push_lt hk).trans (Array.getElem?_eq_getElem hk).symm
    rw [hsz] at h1 h2 h3
    refine ⟨by rw [h1, List.length_cons, Nat.add_assoc, Nat.add_comm 1], fun k hk => ?_, fun j hj => ?_⟩
    · rw [h2 k (Nat.lt_succ_of_lt hk), hpre k hk]
    · cases j with
      | zero =>
        -- below `acc.size` the final array agrees with `acc`, and `acc` has nothing at or beyond it
        have hfun : (fun p => if p < acc.size then ((xs.foldl inhStep (inhStep acc x))[p]?).join else none) =
            fun i => (acc[i]?).join := by
          funext p
          by_cases hp : p < acc.size
          · rw [if_pos hp, h2 p (Nat.lt_succ_of_lt hp), hpre p hp]
          · rw [if_neg hp, Array.getElem?_eq_none (Nat.le_of_not_lt hp)]; rfl
        simp only [Nat.add_zero, List.getElem_cons_zero]
        rw [hfun, h2 acc.size (Nat.lt_succ_self _)]
        exact Array.getElem?_push_size
      | succ j =>
        have := h3 j (Nat.lt_of_succ_lt_succ hj)
        rw [Nat.add_right_comm, Nat.add_assoc] at this
        simpa only [List.getElem_cons_succ] using this

/-- **element-wise characterisation of inheritance**: the effective value of node `i` is its own value if it has one, else the
    effective value of its parent — if the parent was declared before it (what the parser produces) -/
theorem inheritOpt_getElem {α : Type} (parents : List (Option Nat)) (own : List (Option α)) (i : Nat)
    (hi : i < (parents.zip own).length) :
    (inheritOpt parents own)[i]? =
      some (match ((parents.zip own)[i]).2 with
        | some v => some v
        | none => ((parents.zip own)[i]).1.bind (fun p => if p < i then ((inheritOpt parents own)[p]?).join else none)) := by
  rw [inheritOpt_eq_foldl]
  have := (inh_fold_spec (parents.zip own) (#[] : Array (Option α))).2.2 i hi
  simpa only [Array.size_empty, Nat.zero_add] using this

/-- a node with a value of its own keeps it, whatever its ancestors declare -/
theorem inheritOpt_own {α : Type} (parents : List (Option Nat)) (own : List (Option α)) (i : Nat)
    (hi : i < (parents.zip own).length) (v : α) (hv : ((parents.zip own)[i]).2 = some v) :
    (inheritOpt parents own).getD i none = some v := by
  have := inheritOpt_getElem parents own i hi
  rw [hv] at this
  simp only [Array.getD_eq_getD_getElem?, this]
  rfl

/-- a node without a value of its own takes the effective value of its parent (declared before it) -/
theorem inheritOpt_from_parent {α : Type} (parents : List (Option Nat)) (own : List (Option α)) (i p : Nat)
    (hi : i < (parents.zip own).length) (hn : ((parents.zip own)[i]).2 = none) (hp : ((parents.zip own)[i]).1 = some p)
    (hlt : p < i) :
    (inheritOpt parents own).getD i none = (inheritOpt parents own).getD p none := by
  have := inheritOpt_getElem parents own i hi
  rw [hn, hp] at this
  simp only [Option.bind_some, hlt, if_true] at this
  simp only [Array.getD_eq_getD_getElem?, this]
  cases (inheritOpt parents own)[p]? with
  | none => rfl
  | some o => rfl

theorem inhStep_map {α β : Type} (f : α → β) (acc : Array (Option α)) (po : Option Nat × Option α) :
    inhStep (acc.map (Option.map f)) (po.1, po.2.map f) = (inhStep acc po).map (Option.map f) := by
  obtain ⟨p, o⟩ := po
  unfold inhStep
  rw [Array.map_push]
  cases o with
  | some v => rfl
  | none =>
    cases p with
    | none => rfl
    | some i =>
      simp only [Option.map_none, Option.bind_some, Array.getElem?_map]
      cases acc[i]? with
      | none => rfl
      | some o => cases o <;> rfl

theorem inheritOpt_map {α β : Type} (f : α → β) (parents : List (Option Nat)) (own : List (Option α)) :
    inheritOpt parents (own.map (Option.map f)) = (inheritOpt parents own).map (Option.map f) := by
  rw [inheritOpt_eq_foldl, inheritOpt_eq_foldl, List.zip_map_right, List.foldl_map]
  exact Array.map_empty ▸ List.foldl_hom (Array.map (Option.map f)) (g₁ := inhStep)
    (g₂ := fun acc po => inhStep acc (po.1, po.2.map f)) (init := #[]) (inhStep_map f)

theorem inhStep_forall {α : Type} {P : Option α → Prop} (h0 : P none) (acc : Array (Option α)) (po : Option Nat × Option α)
    (hacc : ∀ o ∈ acc, P o) (hpo : P po.2) : ∀ o ∈ inhStep acc po, P o := by
  intro o ho
  rcases Array.mem_push.mp ho with ho | rfl
  · exact hacc o ho
  · obtain ⟨p, v⟩ := po
    cases v with
    | some v => exact hpo
    | none =>
      cases p with
      | none => exact h0
      | some i =>
        show P (acc[i]?.join)
        cases h : acc[i]? with
        | none => exact h0
        | some o => exact hacc o (Array.mem_of_getElem? h)

/-- every effective value is an own value of some node, or none -/
theorem inheritOpt_forall {α : Type} {P : Option α → Prop} (h0 : P none) (parents : List (Option Nat))
    (own : List (Option α)) (h : ∀ o ∈ own, P o) (i : Nat) : P ((inheritOpt parents own).getD i none) := by
  have fold : ∀ (l : List (Option Nat × Option α)) acc, (∀ po ∈ l, P po.2) → (∀ o ∈ acc, P o) →
      ∀ o ∈ l.foldl inhStep acc, P o := by
    intro l
    induction l with
    | nil => exact fun _ _ hacc => hacc
    | cons x xs ih =>
      exact fun acc hl hacc => ih _ (fun po hpo => hl po (List.mem_cons_of_mem _ hpo))
        (inhStep_forall h0 acc x hacc (hl x List.mem_cons_self))
  rw [Array.getD_eq_getD_getElem?]
  cases hi : (inheritOpt parents own)[i]? with
  | none => exact h0
  | some o =>
    exact fold _ #[] (fun po hpo => h _ (List.of_mem_zip hpo).2) (by simp) o (Array.mem_of_getElem? hi)

end SP
