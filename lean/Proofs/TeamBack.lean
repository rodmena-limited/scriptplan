import Proofs.TeamFit
import Proofs.NoIdleBack
/-!
C08, backward mode, for teams: between the end of the team task and its deadline, every slot in which ALL members are
working carries the task on every member or a booking on some member, or a limit has no room there for the whole team.
-/
namespace SP

/-- **along the backward walk of a team**: a visited slot in which all members are working ends up carrying the task
    on every member, or some member carries an entry there, or a limit has no room for the whole team -/
theorem walkLoopB_team_no_idle (e : Env) (wf : WF e) (t : Nat) (sel : List Nat) (fuel : Nat) (σ : St) (w : Walk)
    (vis : List Int) (hinv : Inv e σ) (hs : Solid e σ) (hlf : (e.taskD t).leaf = true) (hw : WalkOk e t w) (hin : WalkIn e w)
    (ha : (e.taskD t).hasAlloc = true) (hm : (e.taskD t).milestone = false)
    (hsel : selectedOf e σ t w = sel) (hteam : isTeam e t sel = true) (hnd : sel.Nodup) (hpos : 0 < (e.taskD t).effort)
    (hts : TS σ t sel false w vis)
    (hleaf : ∀ m ∈ sel, (e.resD m).leaf = true) :
    ∀ p ∈ walkVisitsB e t fuel σ w, AllWorking e sel p.2.cur →
      (∀ m ∈ sel, usageOf ((walkLoop e t false fuel σ w).1.led.get m p.2.cur).usage t ≠ none) ∨
      (∃ m ∈ sel, Has m p.2.cur (walkLoop e t false fuel σ w).1) ∨
      TeamTight e (walkLoop e t false fuel σ w).1 t sel p.2.cur := by
  intro p hp hall
  exact (walk_team_no_idle e wf t sel false fuel σ w vis hinv hs hlf hw hin ha hm hsel hteam hnd hpos hts hleaf p
    (by rw [← walkVisitsB_eq]; exact hp) hall).imp id (Or.imp (fun ⟨m, hm', _, h1⟩ => ⟨m, hm', h1⟩) id)

/-- a backward team task: several pairwise different leaf resources (limits allowed) -/
structure TeamUB (e : Env) (t : Nat) (sel : List Nat) : Prop where
  el : TeamAny e t sel
  rleaf : ∀ m ∈ sel, (e.resD m).leaf = true
  mem : ∀ m ∈ sel, m ∈ (e.taskD t).alloc ++ (e.taskD t).alt

/-- **one backward team task**: between any slot the team is booked in and the slot its walk started in, a slot in which all
    members are working carries the task on every member or an entry on some member, or a limit has no room for the whole team -/
theorem scheduleTaskB_team_no_idle_interval (e : Env) (wf : WF e) (σ : St) (t : Nat) (sel : List Nat)
    (hinv : Inv e σ) (hs : Solid e σ) (hel : TeamUB e t sel) (hf : (σ.tst t).forward = false)
    (hnd : (σ.tst t).done = false) (hclean : ∀ r i, usageOf (σ.led.get r i).usage t = none) :
    ∀ L m0, m0 ∈ sel → usageOf ((scheduleTask e σ t).1.led.get m0 L).usage t ≠ none →
      ∀ i, L ≤ i → i ≤ (initCursor e σ t).1 → AllWorking e sel i →
        (∀ m ∈ sel, usageOf ((scheduleTask e σ t).1.led.get m i).usage t ≠ none) ∨
        (∃ m ∈ sel, Has m i (scheduleTask e σ t).1) ∨ TeamTight e (scheduleTask e σ t).1 t sel i := by
  intro L m0 hm0 hL i hLi hic hall
  rcases scheduleTask_state e wf σ t hnd with ⟨x, y, heq⟩ | ⟨hin, x, heq⟩
  · rw [heq, setT_led, setT_led] at hL
    exact absurd (hclean m0 L) hL
  · rw [hf] at heq
    have hled := congrArg St.led heq
    rw [setT_led] at hled
    rw [hled] at hL
    obtain ⟨p, hp, rfl⟩ := visits_between e t false _ _ _ m0 L i (fun heq => hL (by rw [heq]; exact hclean m0 L))
      ⟨hLi, by rw [walkStart_alloc e σ t hel.el.alloc]; exact hic⟩
    rcases walkLoopB_team_no_idle e wf t sel _ _ _ [] (inv_setT _ _ hinv) ((solid_closed e).setT σ t _ hs) hel.el.leaf
      (walkStart_walkOk e wf σ t) hin hel.el.alloc hel.el.nomile (hel.el.pick _ _) hel.el.isTeam hel.el.nodup hel.el.effort
      ⟨fun r _ i _ => hclean r i, fun i hi => absurd hi List.not_mem_nil,
        fun r _ r' _ i => by
          show usageOf (σ.led.get r i).usage t = usageOf (σ.led.get r' i).usage t
          rw [hclean r i, hclean r' i]⟩
      hel.rleaf p (by rw [walkVisitsB_eq]; exact hp) hall with h1 | ⟨m, hm, h1⟩ | h1
    · left
      rw [hled]
      exact h1
    · right; left
      rw [heq]
      exact ⟨m, hm, (has_closed e m _).setT _ t _ h1⟩
    · right; right
      rw [heq]
      exact teamTight_closed_step (fun lid ro hr => (tight_closed e lid _ ro _).setT _ t _ hr) h1

/-- the interval reaches up to the deadline: between the slot the walk started in and the deadline no member is on shift -/
theorem scheduleTaskB_team_no_idle_deadline (e : Env) (wf : WF e) (σ : St) (t : Nat) (sel : List Nat)
    (hinv : Inv e σ) (hs : Solid e σ) (hel : TeamUB e t sel) (hf : (σ.tst t).forward = false)
    (hnd : (σ.tst t).done = false) (hclean : ∀ r i, usageOf (σ.led.get r i).usage t = none) :
    ∀ L m0, m0 ∈ sel → usageOf ((scheduleTask e σ t).1.led.get m0 L).usage t ≠ none →
      ∀ i, L ≤ i → i ≤ e.idx (deadlineOf e σ t) - 1 → AllWorking e sel i →
        (∀ m ∈ sel, usageOf ((scheduleTask e σ t).1.led.get m i).usage t ≠ none) ∨
        (∃ m ∈ sel, Has m i (scheduleTask e σ t).1) ∨ TeamTight e (scheduleTask e σ t).1 t sel i := by
  intro L m0 hm0 hL i hLi hid hall
  by_cases hic : i ≤ (initCursor e σ t).1
  · exact scheduleTaskB_team_no_idle_interval e wf σ t sel hinv hs hel hf hnd hclean L m0 hm0 hL i hLi hic hall
  · have := initCursor_back_gap e σ t m0 hf hel.el.effort hel.el.alloc (hel.mem m0 hm0) i (by omega) hid
    rw [(hall m0 hm0).1] at this
    exact Bool.noConfusion this

def NoIdleBackAtT (e : Env) (σ0 σ : St) (t : Nat) (sel : List Nat) : Prop :=
  ∀ L m0, m0 ∈ sel → usageOf (σ.led.get m0 L).usage t ≠ none →
    ∀ i, L ≤ i → i ≤ e.idx (deadlineG e σ0 σ t) - 1 → AllWorking e sel i →
      (∀ m ∈ sel, usageOf (σ.led.get m i).usage t ≠ none) ∨ (∃ m ∈ sel, Has m i σ) ∨ TeamTight e σ t sel i

def DoneIdleBT (e : Env) (σ0 σ : St) : Prop :=
  ∀ t sel, TeamUB e t sel → (σ.tst t).done = true → (σ.tst t).forward = false →
    ((σ0.tst t).stop = none → Settled e σ t) ∧
    (∃ v, (σ.tst t).stop = some v ∧ v ≤ deadlineG e σ0 σ t) ∧ NoIdleBackAtT e σ0 σ t sel

structure BIdleInvT (e : Env) (σ0 σ : St) (tasks : List Nat) : Prop where
  base : BIdleInv e σ0 σ tasks
  okT : DoneIdleBT e σ0 σ

/-- the team clause, from the same clause up to a slot `B` in a state `σ` from which `σ'` is reached by steps that only
    add to the books and leave the entries of `t` alone -/
theorem NoIdleBackAtT.of_bound {e : Env} {σ0 σ σ' : St} {t : Nat} {sel : List Nat} {B : Int}
    (hcl : ∀ P : St → Prop, Closed e P → P σ → P σ') (hse : SameEntries σ σ' t)
    (hB : e.idx (deadlineG e σ0 σ' t) - 1 = B)
    (h : ∀ L m0, m0 ∈ sel → usageOf (σ.led.get m0 L).usage t ≠ none →
      ∀ i, L ≤ i → i ≤ B → AllWorking e sel i →
        (∀ m ∈ sel, usageOf (σ.led.get m i).usage t ≠ none) ∨ (∃ m ∈ sel, Has m i σ) ∨ TeamTight e σ t sel i) :
    NoIdleBackAtT e σ0 σ' t sel := by
  intro L m0 hm0 hL i hLi hid hall
  rw [hse m0 L] at hL
  rcases h L m0 hm0 hL i hLi (hB ▸ hid) hall with h1 | ⟨m, hm, h1⟩ | h1
  · exact Or.inl fun m hm => by rw [hse m i]; exact h1 m hm
  · exact Or.inr (Or.inl ⟨m, hm, hcl _ (has_closed e m i) h1⟩)
  · exact Or.inr (Or.inr (teamTight_closed_step (fun lid ro => hcl _ (tight_closed e lid i ro _)) h1))

theorem bIdleInvT_step {e : Env} (wf : WF e) {σ0 σ : St} {tasks : List Nat} {t0 : Nat} (hT : BIdleInvT e σ0 σ tasks)
    (hmem : t0 ∈ tasks) (hready : ready e σ t0 = true) :
    BIdleInvT e σ0 (updateContainers e (scheduleTask e σ t0).1) (tasks.erase t0) := by
  have h := hT.base
  refine ⟨bIdleInv_step wf h hmem hready, fun t sel hel hd hfw => ?_⟩
  by_cases heq : t = t0
  · subst heq
    obtain ⟨hfw0, -, hst, hend, hdl⟩ := bIdle_round_self wf h hmem hready hel.el.effort hd hfw
    obtain ⟨-, -, hnd0, hclean0⟩ := h.pending t hmem
    exact ⟨hst, hend, NoIdleBackAtT.of_bound (fun P hc => closed_updateContainers hc _)
      (SameEntries.of_led (updateContainers_led e _)) (by rw [hdl])
      (scheduleTaskB_team_no_idle_deadline e wf σ t sel h.inv h.solid hel hfw0 hnd0 hclean0)⟩
  · obtain ⟨hts, hse⟩ := round_other e σ t0 t hel.el.leaf heq
    rw [hts] at hd hfw
    obtain ⟨hst, hend, hidle⟩ := hT.okT t sel hel hd hfw
    obtain ⟨hst', hend', hdl⟩ := ends_keep (bIdle_round_scheduled h hmem) (by rw [hts]) hst hend
    exact ⟨hst', hend', NoIdleBackAtT.of_bound (bIdle_round_closed wf h hmem) hse (by rw [hdl]) hidle⟩

/-- **C08, backward mode, teams, end to end.**  After scheduling any well-formed project: every completed backward
    (ALAP) team task — several pairwise different leaf resources, limits allowed — ends by its deadline, and
    between any slot `L` in which it is booked and the last slot before the deadline, every slot in which ALL its members are on
    shift and not on leave carries the task on every member, or a booking on some member, or some limit of a member or of the
    task has no room left there for the whole team (`TeamTight`). -/
theorem runScenario_doneIdleBT (e : Env) (wf : WF e) (tr : Tree e) : DoneIdleBT e (loopStart e) (runScenario e) := by
  obtain ⟨rest, -, h⟩ := scenario_induct (I := fun tasks _ σ => BIdleInvT e (loopStart e) σ tasks)
    (fun tasks _ σ t0 h hf => bIdleInvT_step wf h (List.mem_of_find?_eq_some hf) (by simpa using List.find?_some hf))
    (fun _ _ _ w h => ⟨h.base.warn w, h.okT⟩)
    ⟨bIdleInv_loopStart e wf, fun t _ _ hd => absurd hd (by rw [loopStart_done]; exact Bool.noConfusion)⟩
  intro t sel hel hd hfw
  rw [runScenario_leafT e t hel.el.leaf] at hd hfw
  obtain ⟨hst, hend, hidle⟩ := h.okT t sel hel hd hfw
  obtain ⟨hst', hend', hdl⟩ := ends_keep (finishScenario_fix e tr)
    (by rw [runScenario_leafT e t hel.el.leaf]) hst hend
  exact ⟨hst', hend', NoIdleBackAtT.of_bound (fun P hc => closed_finishScenario hc _)
    (SameEntries.of_led (finishScenario_led e _)) (by rw [hdl]) hidle⟩

end SP
