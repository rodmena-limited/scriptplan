import Proofs.NoIdleGlobal
import Proofs.EffortAlt
/-!
C08, forward mode, for tasks with an alternative: on the candidate `_selectBestResources` chose at the first slot no working,
unbooked slot within the limits is left between the dependency bound and the end.
-/
namespace SP

/-- a forward effort task with one primary and one alternative resource, both leaves; the task has no start of its own -/
structure EligAltU (e : Env) (t r1 r2 : Nat) : Prop where
  el : EligAlt e t r1 r2
  nostart : (e.taskD t).startProvided = false
  leaf1 : (e.resD r1).leaf = true
  leaf2 : (e.resD r2).leaf = true

def DoneIdleAlt (e : Env) (σ : St) : Prop :=
  ∀ t r1 r2, EligAltU e t r1 r2 → (σ.tst t).done = true → (σ.tst t).forward = true →
    (∀ dp ∈ (e.taskD t).allDeps, (σ.tst dp.target).scheduled = true) ∧
    ∃ r, (r = r1 ∨ r = r2) ∧ (∃ L, usageOf (σ.led.get r L).usage t ≠ none) ∧ NoIdleAt e σ t r

structure IdleInvAlt (e : Env) (σ : St) (tasks : List Nat) : Prop where
  inv : Inv e σ
  solid : Solid e σ
  nodup : tasks.Nodup
  leaf : ∀ t ∈ tasks, (e.taskD t).leaf = true
  inrange : ∀ t ∈ tasks, t < σ.ts.size
  pending : ∀ t ∈ tasks, (σ.tst t).scheduled = false ∧ (σ.tst t).done = false ∧
    (∀ r i, usageOf (σ.led.get r i).usage t = none) ∧ (EffLeaf e t → (σ.tst t).start = (e.taskD t).start)
  ok : DoneIdleAlt e σ

theorem EligAltU.chosen {e : Env} {t r1 r2 : Nat} (hel : EligAltU e t r1 r2) (σ : St) (c : Int) :
    ∃ r, (r = r1 ∨ r = r2) ∧ (e.resD r).leaf = true ∧
      selectBest e σ (e.taskD t).alloc (e.taskD t).alt (e.taskD t).effort c = [r] := by
  rw [hel.el.prim, hel.el.alt]
  rcases selectBest_alt e σ r1 r2 (e.taskD t).effort c with h | h
  · exact ⟨r1, Or.inl rfl, hel.leaf1, h⟩
  · exact ⟨r2, Or.inr rfl, hel.leaf2, h⟩

theorem placed_booked (e : Env) (wf : WF e) (σ : St) (t r : Nat) (hinv : Inv e σ)
    (hlf : (e.taskD t).leaf = true) (hal : (e.taskD t).hasAlloc = true) (hnm : (e.taskD t).milestone = false)
    (hpos : 0 < (e.taskD t).effort)
    (hsel1 : selectBest e (σ.setT t (σ.tst t)) (e.taskD t).alloc (e.taskD t).alt (e.taskD t).effort (initCursor e σ t).1 = [r])
    (hb : t < σ.ts.size) (hf : (σ.tst t).forward = true) (hnd : (σ.tst t).done = false)
    (hclean : ∀ i, usageOf (σ.led.get r i).usage t = none) (hok : (scheduleTask e σ t).2 = true) :
    ∃ L, usageOf ((updateContainers e (scheduleTask e σ t).1).led.get r L).usage t ≠ none := by
  obtain ⟨fb, _, _, hfb, _⟩ := scheduleTask_framed_sel e wf σ t r hinv hlf hal hnm hpos hsel1 hb hf hnd hclean hok
  exact ⟨fb, by rw [updateContainers_led]; exact hfb⟩

theorem idleInvAlt_step (e : Env) (wf : WF e) (σ : St) (tasks : List Nat) (t0 : Nat) (h : IdleInvAlt e σ tasks)
    (hmem : t0 ∈ tasks) (hready : ready e σ t0 = true) :
    IdleInvAlt e (updateContainers e (scheduleTask e σ t0).1) (tasks.erase t0) := by
  obtain ⟨h1, h2, h3, h4, h5, h6⟩ := idle_round_pending e wf σ tasks t0 h.inv h.solid h.nodup h.leaf hmem h.inrange h.pending
  refine ⟨h1, h2, h3, h4, h5, h6, fun t r1 r2 hel hd hfw => ?_⟩
  have hp0 := h.pending t0 hmem
  by_cases heq : t = t0
  · subst heq
    rw [updateContainers_leaf e _ t hel.el.leaf] at hd hfw
    rw [scheduleTask_self_forward] at hfw
    have hdeps := ready_forward_deps e σ t hfw hready
    have hok := scheduleTask_done e σ t hp0.2.1 hd
    obtain ⟨r, hr, hrl, hsel1⟩ := hel.chosen (σ.setT t (σ.tst t)) (initCursor e σ t).1
    exact ⟨(boundSlot_round e σ t t hp0.1 hdeps).2, r, hr,
      placed_booked e wf σ t r h.inv hel.el.leaf hel.el.alloc hel.el.nomile hel.el.effort hsel1 (h.inrange t hmem) hfw hp0.2.1
        (hp0.2.2.1 r) hok,
      NoIdleAt.placed wf h.inv h.solid hel.el.leaf hel.el.alloc hel.el.nomile hel.el.effort hel.nostart hsel1
        (h.inrange t hmem) hfw hp0 hdeps hrl hok⟩
  · rw [round_fixed e σ t0 t heq (Or.inl hel.el.leaf)] at hd hfw
    obtain ⟨hdeps, r, hr, ⟨L0, hL0⟩, hidle⟩ := h.ok t r1 r2 hel hd hfw
    exact ⟨(boundSlot_round e σ t0 t hp0.1 hdeps).2, r, hr,
      ⟨L0, by rw [updateContainers_led, scheduleTask_same e σ t0 t (Ne.symm heq) r L0]; exact hL0⟩,
      hidle.round wf t0 h.inv (h.leaf t0 hmem) heq hp0.1 hdeps⟩

/-- **C08, forward mode, with an alternative, end to end.**  After scheduling any well-formed project with a well-formed
    task tree: for every completed forward effort task `t` without a start of its own with one primary and one alternative
    resource (both leaves), every predecessor is scheduled, and on ONE of the two candidates — the one chosen at the first
    slot — between the slot of the dependency bound and any slot `L` in which `t` is booked on it, every slot in which that
    resource is on shift and not on leave carries an entry in the final ledger, unless a limit refuses it in the final state. -/
theorem runScenario_doneIdleAlt (e : Env) (wf : WF e) (tr : Tree e) : DoneIdleAlt e (runScenario e) := by
  obtain ⟨rest, -, h⟩ := scenario_induct (I := fun tasks _ σ => IdleInvAlt e σ tasks)
    (fun tasks _ σ t0 h hf => idleInvAlt_step e wf σ tasks t0 h (List.mem_of_find?_eq_some hf) (by simpa using List.find?_some hf))
    (fun _ _ σ _ h => ⟨Inv.of_eq (σ := σ) rfl rfl h.inv, ⟨h.solid.room, h.solid.marked⟩, h.nodup, h.leaf, h.inrange, h.pending, h.ok⟩)
    ⟨loopStart_inv e wf, solid_loopStart e wf, todoOf_nodup e _, todoOf_leaf e _, fun t ht => (todoOf_loopStart e t ht).2.1,
     loopStart_pending e, fun t r1 r2 _ hd => absurd hd (by rw [loopStart_done]; exact Bool.noConfusion)⟩
  intro t r1 r2 hel hdone hfw
  have hsd := finishScenario_sameDates e _ (scheduleScenario_cont e tr).1 (scheduleScenario_cont e tr).2
  rw [runScenario_leafT e t hel.el.leaf] at hdone hfw
  obtain ⟨hdeps, r, hr, ⟨L0, hL0⟩, hidle⟩ := h.ok t r1 r2 hel hdone hfw
  exact ⟨fun dp hdp => by unfold runScenario; rw [(hsd dp.target).2.2]; exact hdeps dp hdp, r, hr,
    ⟨L0, by unfold runScenario; rw [finishScenario_led]; exact hL0⟩, hidle.finish tr⟩

end SP
