import Proofs.FrameTeam
/-!
C06 for teams, backward mode, and both modes together: mirror of `Proofs/FrameBack` over the team lemmas.
-/
namespace SP

/-- invariant of the backward walk of a team task, seen from the member `r` -/
structure BInvT (e : Env) (σ : St) (t : Nat) (sel : List Nat) (η : Rat) (r : Nat) (w : Walk) (vis : List Int) : Prop where
  acc : TAcc e σ t sel η false w vis
  inb : t < σ.ts.size
  bwd : (σ.tst t).forward = false
  bfst : Bfst σ t r w vis

theorem book_bfstT (e : Env) (wf : WF e) (σ : St) (t : Nat) (sel : List Nat) (η : Rat) (r : Nat) (hr : r ∈ sel)
    (w : Walk) (vis : List Int) (hinv : Inv e σ)
    (ha : (e.taskD t).hasAlloc = true) (hsel : selectedOf e σ t w = sel)
    (hteam : isTeam e t sel = true) (hnd : sel.Nodup) (heff : ∀ r ∈ sel, (e.resD r).eff = η) (hη : 0 < η)
    (h : BInvT e σ t sel η r w vis) :
    Bfst (bookResources e σ t w).1 t r
      { (bookResources e σ t w).2 with firstBooked := fbAfter w (bookResources e σ t w).2 } (w.cur :: vis) := by
  obtain ⟨hvis, hcase⟩ := book_factsT e wf σ t sel η r hr false w vis hinv ha hsel hteam hnd heff hη h.acc
  have hfb1 := bookResources_firstBooked e σ t w
  have hbefore : ∀ i ∈ vis, w.cur < i := fun i hi => by simpa using h.acc.before i hi
  -- a latest booking on record stays the latest: this slot lies before it
  have hold : ∀ fb, w.firstBooked = some fb → fb ∈ w.cur :: vis ∧
      usageOf ((bookResources e σ t w).1.led.get r fb).usage t ≠ none ∧
      ∀ i ∈ w.cur :: vis, usageOf ((bookResources e σ t w).1.led.get r i).usage t ≠ none → i ≤ fb := by
    intro fb hfb
    obtain ⟨h1, h2, h3⟩ := h.bfst.2 fb hfb
    refine ⟨List.mem_cons_of_mem _ h1, by rw [hvis fb h1]; exact h2, fun i hi hni => ?_⟩
    rcases List.mem_cons.mp hi with hi | hi
    · have := hbefore fb h1; omega
    · exact h3 i hi (by rw [← hvis i hi]; exact hni)
  rcases hcase with ⟨hn, hd⟩ | ⟨hne, hd⟩
  · -- nothing booked in this slot
    have hfa : fbAfter w (bookResources e σ t w).2 = w.firstBooked := by
      unfold fbAfter
      simp [Rat.lt_irrefl, hd, hfb1]
    refine ⟨fun hnone i hi => ?_, fun fb hfb => hold fb (hfa ▸ hfb)⟩
    rcases List.mem_cons.mp hi with hi | hi
    · rw [hi]; exact hn
    · rw [hvis i hi]; exact h.bfst.1 (hfa ▸ hnone) i hi
  · cases hfbw : w.firstBooked with
    | none =>
      -- the first booking of the walk
      have hfa : fbAfter w (bookResources e σ t w).2 = some w.cur := by
        unfold fbAfter
        simp [hfb1, hfbw, hd, (bookResources_walk e σ t w).1]
      refine ⟨fun hnone => absurd (hfa.symm.trans hnone) (Option.some_ne_none _), fun fb hfb => ?_⟩
      obtain rfl : w.cur = fb := Option.some.inj (hfa ▸ hfb)
      refine ⟨List.mem_cons_self, hne, fun i hi hni => ?_⟩
      rcases List.mem_cons.mp hi with hi | hi
      · omega
      · exact absurd (by rw [hvis i hi]; exact h.bfst.1 hfbw i hi) hni
    | some fb0 =>
      have hfa : fbAfter w (bookResources e σ t w).2 = w.firstBooked := by
        unfold fbAfter; simp [hfb1, hfbw]
      exact ⟨fun hnone => absurd ((hfa.trans hfbw).symm.trans hnone) (Option.some_ne_none _), fun fb hfb => hold fb (hfa ▸ hfb)⟩

theorem scheduleSlot_binvT (e : Env) (wf : WF e) (σ : St) (t : Nat) (sel : List Nat) (η : Rat) (r : Nat) (hr : r ∈ sel)
    (w : Walk) (vis : List Int)
    (hinv : Inv e σ) (hlf : (e.taskD t).leaf = true) (hw : WalkOk e t w)
    (ha : (e.taskD t).hasAlloc = true) (hm : (e.taskD t).milestone = false)
    (hsel : selectedOf e σ t w = sel) (hteam : isTeam e t sel = true) (hnd : sel.Nodup)
    (heff : ∀ r ∈ sel, (e.resD r).eff = η) (hη : 0 < η)
    (hlt : w.done < (e.taskD t).effort) (hpos : 0 < (e.taskD t).effort)
    (h : BInvT e σ t sel η r w vis) :
    ((scheduleSlot e σ t w).2.2 = true →
        BInvT e (scheduleSlot e σ t w).1 t sel η r (advance false w (scheduleSlot e σ t w).2.1) (w.cur :: vis)) ∧
    ((scheduleSlot e σ t w).2.2 = false →
        BackDone e (scheduleSlot e σ t w).1 t r (fbAfter w (scheduleSlot e σ t w).2.1)) := by
  have hsa := scheduleSlot_tacc e wf σ t sel η false w vis hinv ha hm hsel hteam hnd heff hη hlt hpos h.acc
  have hbf := book_bfstT e wf σ t sel η r hr w vis hinv ha hsel hteam hnd heff hη h
  have hfr := bookResources_frame e σ t w
  have hbefore : ∀ i ∈ vis, w.cur < i := fun i hi => by simpa using h.acc.before i hi
  have hclean := h.acc.cur_clean.2
  constructor
  · intro hc
    obtain ⟨hacc', -, -⟩ := hsa.1 hc
    obtain ⟨hs1, hs2⟩ := scheduleSlot_effort_true e σ t w hm hpos hc
    rw [hs1, hs2] at hacc' ⊢
    exact ⟨hacc', by rw [hfr.2.2.2.2]; exact h.inb, by rw [hfr.2.2.2.1]; exact h.bwd,
      Bfst.of_firstBooked (advance_back_firstBooked _ _) hbf⟩
  · intro hc
    obtain ⟨hfin, hw1, hled, htst⟩ := scheduleSlot_effort_false e σ t w hm hpos h.inb hc
    obtain ⟨a, rl, x, hrl, hent, -, hx0, hxG, hF⟩ :=
      team_finish e wf σ t w sel η hinv hlf hw ha hsel hteam hnd heff hη hclean hlt hfin
    obtain ⟨hiff, hdate⟩ := hF false
    rw [h.bwd] at hled htst
    rw [if_neg Bool.false_ne_true] at htst hdate
    have hent' : ∀ i, (usageOf ((scheduleSlot e σ t w).1.led.get r i).usage t = none ↔
        usageOf ((bookResources e σ t w).1.led.get r i).usage t = none) := fun i => by rw [hled]; exact hiff r hr i
    -- the task booked in this slot, so a first booked slot is on record
    obtain ⟨fb, hfb⟩ : ∃ fb, fbAfter w (bookResources e σ t w).2 = some fb := by
      unfold fbAfter
      cases hfb : (bookResources e σ t w).2.firstBooked with
      | none =>
        have hgt : (bookResources e σ t w).2.done > w.done := Std.lt_of_lt_of_le hlt hfin
        simp [hgt]
      | some x => exact ⟨x, by simp⟩
    obtain ⟨hfbmem, hfbne, hmax⟩ :=
      (Bfst.transfer (σ' := (scheduleSlot e σ t w).1) (fun i _ => hent' i) hbf).2 fb hfb
    have hcur_le : w.cur ≤ fb := by
      rcases List.mem_cons.mp hfbmem with hh | hh
      · omega
      · have := hbefore fb hh; omega
    -- the start lies `roundHalfEven x` seconds before the end of the finishing slot, `0 ≤ x ≤ G`
    have hb1 := roundHalfEven_nonneg _ hx0
    have hb2 := roundHalfEven_mono_int _ e.G hxG
    rw [hw1]
    refine ⟨w.cur, fb, hfb, hcur_le, ?_, hfbne, ?_, ⟨_, by rw [htst, hdate], ?_⟩⟩
    · intro hc2; have hc3 := (hent' w.cur).mp hc2; rw [hent r hr] at hc3; cases hc3
    · intro i hi
      have hin : i ∈ w.cur :: vis := Classical.byContradiction fun hmem => hi ((hsa.2 hc).2.1 r hr i hmem)
      refine ⟨?_, hmax i hin hi⟩
      rcases List.mem_cons.mp hin with hh | hh
      · omega
      · have := hbefore i hh; omega
    · rw [time_succ]; omega

theorem walkLoop_back_doneT (e : Env) (wf : WF e) (t : Nat) (sel : List Nat) (η : Rat) (r : Nat) (hr : r ∈ sel)
    (fuel : Nat) (σ : St) (w : Walk) (vis : List Int)
    (hinv : Inv e σ) (hlf : (e.taskD t).leaf = true) (hw : WalkOk e t w)
    (ha : (e.taskD t).hasAlloc = true) (hm : (e.taskD t).milestone = false)
    (hsel : selectedOf e σ t w = sel) (hteam : isTeam e t sel = true) (hnd : sel.Nodup)
    (heff : ∀ r ∈ sel, (e.resD r).eff = η) (hη : 0 < η)
    (hlt : w.done < (e.taskD t).effort) (hpos : 0 < (e.taskD t).effort)
    (h : BInvT e σ t sel η r w vis) (hok : (walkLoop e t false fuel σ w).2.2 = true) :
    BackDone e (walkLoop e t false fuel σ w).1 t r (walkLoop e t false fuel σ w).2.1.firstBooked := by
  obtain ⟨σl, wl, visl, ⟨hI, hsel', hlt'⟩, hinvl, hwl, hcl, h1, h2⟩ := walkLoop_last
    (I := fun σ w vis => BInvT e σ t sel η r w vis ∧ selectedOf e σ t w = sel ∧ w.done < (e.taskD t).effort) wf hlf
    (fun σ w vis hinv hw h hc _ _ => by
      obtain ⟨-, h2, h3⟩ :=
        (scheduleSlot_tacc e wf σ t sel η false w vis hinv ha hm h.2.1 hteam hnd heff hη h.2.2 hpos h.1.acc).1 hc
      exact ⟨(scheduleSlot_binvT e wf σ t sel η r hr w vis hinv hlf hw ha hm h.2.1 hteam hnd heff hη h.2.2 hpos h.1).1 hc,
        selectedOf_some e _ t _ sel h2, h3⟩)
    fuel σ w vis hinv hw ⟨h, hsel, hlt⟩ hok
  rw [h1, h2]
  exact (scheduleSlot_binvT e wf σl t sel η r hr wl visl hinvl hlf hwl ha hm hsel' hteam hnd heff hη hlt' hpos hI).2 hcl

/-- one backward team task: framed on every member, and start ≤ end -/
theorem scheduleTask_framed_backT2 (e : Env) (wf : WF e) (σ : St) (t : Nat) (sel : List Nat) (η : Rat) (r : Nat) (hr : r ∈ sel)
    (hinv : Inv e σ) (hel : TeamElig e t sel η) (hb : t < σ.ts.size) (hf : (σ.tst t).forward = false)
    (hnd : (σ.tst t).done = false) (hclean : ∀ m ∈ sel, ∀ i, usageOf (σ.led.get m i).usage t = none)
    (hok : (scheduleTask e σ t).2 = true) : Framed e (scheduleTask e σ t).1 t r ∧ Ordered (scheduleTask e σ t).1 t := by
  obtain ⟨-, hfin, heq⟩ := scheduleTask_ok e wf σ t hnd hok
  obtain ⟨hs0, hacc⟩ := team_walkStart e σ t sel η hel hclean false
  obtain ⟨hsz0, hfw0⟩ := walkStart_tst e σ t hb
  rw [hf] at hfin heq hfw0
  have hbd := walkLoop_back_doneT e wf t sel η r hr _ (walkStart e σ t).1 (walkStart e σ t).2 [] (inv_setT _ _ hinv)
    hel.leaf (walkStart_walkOk e wf σ t) hel.alloc hel.nomile hs0 hel.isTeam hel.nodup hel.eff hel.effpos hel.effort
    hel.effort ⟨hacc, hsz0, hfw0, fun _ i hi => absurd hi List.not_mem_nil, fun fb hfb => nomatch hfb⟩ hfin
  have hsz := hsz0
  rw [← (walkLoop_frame e t false (e.size.toNat + 3) (walkStart e σ t).1 (walkStart e σ t).2).2.2.2.2] at hsz
  rw [heq]
  exact finalT_framed_back e wf _ t r _ _ hsz hel.effort hbd

theorem scheduleTask_framed_backT (e : Env) (wf : WF e) (σ : St) (t : Nat) (sel : List Nat) (η : Rat) (r : Nat) (hr : r ∈ sel)
    (hinv : Inv e σ) (hel : TeamElig e t sel η) (hb : t < σ.ts.size) (hf : (σ.tst t).forward = false)
    (hnd : (σ.tst t).done = false) (hclean : ∀ m ∈ sel, ∀ i, usageOf (σ.led.get m i).usage t = none)
    (hok : (scheduleTask e σ t).2 = true) : Framed e (scheduleTask e σ t).1 t r :=
  (scheduleTask_framed_backT2 e wf σ t sel η r hr hinv hel hb hf hnd hclean hok).1

/-- one team task, either direction: framed on every member, and start ≤ end -/
theorem scheduleTask_framedT_both (e : Env) (wf : WF e) (σ : St) (t : Nat) (sel : List Nat) (η : Rat) (r : Nat) (hr : r ∈ sel)
    (hinv : Inv e σ) (hel : TeamElig e t sel η) (hb : t < σ.ts.size)
    (hnd : (σ.tst t).done = false) (hclean : ∀ m i, usageOf (σ.led.get m i).usage t = none)
    (hok : (scheduleTask e σ t).2 = true) : Framed e (scheduleTask e σ t).1 t r ∧ Ordered (scheduleTask e σ t).1 t := by
  cases hfw : (σ.tst t).forward with
  | true => exact scheduleTask_framedT2 e wf σ t sel η r hr hinv hel hb hfw hnd (fun m _ => hclean m) hok
  | false => exact scheduleTask_framed_backT2 e wf σ t sel η r hr hinv hel hb hfw hnd (fun m _ => hclean m) hok

/-- every completed team task is framed on every member — forward or backward -/
def DoneFramedTAll (e : Env) (σ : St) : Prop :=
  ∀ t sel η r, TeamElig e t sel η → r ∈ sel → (σ.tst t).done = true → Framed e σ t r

structure FrInvTAll (e : Env) (σ : St) (tasks : List Nat) : Prop where
  inv : Inv e σ
  nodup : tasks.Nodup
  leaf : ∀ t ∈ tasks, (e.taskD t).leaf = true
  inrange : ∀ t ∈ tasks, t < σ.ts.size
  pending : ∀ t ∈ tasks, (σ.tst t).done = false ∧ ∀ r i, usageOf (σ.led.get r i).usage t = none
  ok : DoneFramedTAll e σ

theorem frInvTAll_step (e : Env) (wf : WF e) (σ : St) (tasks : List Nat) (t0 : Nat) (h : FrInvTAll e σ tasks)
    (hmem : t0 ∈ tasks) : FrInvTAll e (updateContainers e (scheduleTask e σ t0).1) (tasks.erase t0) := by
  obtain ⟨h1, h2, h3, h4, h5⟩ := round_pending e wf σ tasks t0 h.inv h.nodup h.leaf h.inrange h.pending hmem
  exact ⟨h1, h2, h3, h4, h5, fun t sel η r hel hr => round_done
    (E := fun t => TeamElig e t sel η ∧ r ∈ sel) (P := fun σ t => Framed e σ t r)
    (fun _ h => h.1.leaf) (fun _ _ _ hse hts hP => Framed.of_same hse hts hP)
    (fun σ t hinv hel hb hnd hcl hok => (scheduleTask_framedT_both e wf σ t sel η r hel.2 hinv hel.1 hb hnd hcl hok).1)
    σ t0 h.inv (h.inrange t0 hmem) (h.pending t0 hmem) (fun t hel => h.ok t sel η r hel.1 hel.2) t ⟨hel, hr⟩⟩

/-- **C06 for teams, both modes, end to end**: after scheduling any well-formed project, every completed team task (members
    sharing one efficiency) is framed on every member -/
theorem runScenario_framedT_all (e : Env) (wf : WF e) : DoneFramedTAll e (runScenario e) := by
  obtain ⟨rest, -, h⟩ := scenario_induct (I := fun tasks _ σ => FrInvTAll e σ tasks)
    (fun tasks _ σ t0 h hf => frInvTAll_step e wf σ tasks t0 h (List.mem_of_find?_eq_some hf))
    (fun _ _ σ _ h => ⟨Inv.of_eq (σ := σ) rfl rfl h.inv, h.nodup, h.leaf, h.inrange, h.pending, h.ok⟩)
    ⟨loopStart_inv e wf, todoOf_nodup e _, todoOf_leaf e _, fun t ht => (todoOf_loopStart e t ht).2.1,
     fun t ht => ⟨(todoOf_loopStart e t ht).2.2.2.1, (todoOf_loopStart e t ht).2.2.2.2⟩,
     fun t _ _ _ _ _ hd => absurd hd (by rw [loopStart_done]; exact Bool.noConfusion)⟩
  intro t sel η r hel hr hdn
  unfold runScenario at hdn ⊢
  rw [finishScenario_leafT e _ t hel.leaf] at hdn
  exact Framed.of_same (SameEntries.of_led (finishScenario_led e _)) (finishScenario_leafT e _ t hel.leaf)
    (h.ok t sel η r hel hr hdn)

/-- **C06 for teams, forward mode, end to end**: after scheduling any well-formed project, every completed forward team
    task (members sharing one efficiency) is framed on every member `r`: its bookings on `r` lie between a first and a
    last booked slot, the reported start lies in the first, the reported end in the last. -/
theorem runScenario_framedT (e : Env) (wf : WF e) : DoneFramedT e (runScenario e) :=
  fun t sel η r hel hr hd _ => runScenario_framedT_all e wf t sel η r hel hr hd

end SP
