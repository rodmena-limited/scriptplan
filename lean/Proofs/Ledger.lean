import Model.Ledger
/-!
One slot of one resource (`Model/Ledger`).  The lemmas are grouped by the definition they are about: `usageSum`, `usageOf`,
`setUsage`, `availSecs`, then the operations `Slot.book`, `Slot.reserve`, `Slot.release` — what each does to the entry of the
task concerned, to the entries of the others, to `used` and to the emptiness of the usage list.
`SlotInv` is what C01 needs of a slot (0 ≤ sum of the entries ≤ used ≤ slot length); every operation keeps it
(`book_inv`, `reserve_inv`, `release_inv`), and under it the booked portions lie side by side inside the slot (`layout_disjoint`).
-/
namespace SP

def usageSum : List (Nat × Rat) → Rat
  | [] => 0
  | e :: es => e.2 + usageSum es

@[simp] theorem usageSum_nil : usageSum [] = 0 := rfl
@[simp] theorem usageSum_cons (e : Nat × Rat) (es) : usageSum (e :: es) = e.2 + usageSum es := rfl

theorem usageSum_append (a b : List (Nat × Rat)) : usageSum (a ++ b) = usageSum a + usageSum b := by
  induction a with
  | nil => exact (Rat.zero_add _).symm
  | cons e es ih => rw [List.cons_append, usageSum_cons, usageSum_cons, ih, Rat.add_assoc]

theorem usageSum_take_mono (l : List (Nat × Rat)) (h : ∀ e ∈ l, 0 ≤ e.2) (m n : Nat) (hmn : m ≤ n) :
    usageSum (l.take m) ≤ usageSum (l.take n) := by
  induction l generalizing m n with
  | nil => rw [List.take_nil, List.take_nil]; exact Rat.le_refl
  | cons x xs ih =>
    have hx := h x List.mem_cons_self
    have ih := ih (fun e he => h e (List.mem_cons_of_mem _ he))
    cases n with
    | zero => rw [Nat.le_zero.mp hmn]; exact Rat.le_refl
    | succ n =>
      cases m with
      | zero =>
        have := ih 0 n (Nat.zero_le n)
        rw [List.take_zero, usageSum_nil] at this ⊢
        rw [List.take_succ_cons, usageSum_cons]
        exact Rat.add_nonneg hx this
      | succ m =>
        have := ih m n (Nat.le_of_succ_le_succ hmn)
        rw [List.take_succ_cons, List.take_succ_cons, usageSum_cons, usageSum_cons]
        exact Rat.add_le_add_left.mpr this

theorem usageSum_take_le (l : List (Nat × Rat)) (h : ∀ e ∈ l, 0 ≤ e.2) (n : Nat) : usageSum (l.take n) ≤ usageSum l := by
  have := usageSum_take_mono l h n (max n l.length) (Nat.le_max_left ..)
  rwa [List.take_of_length_le (Nat.le_max_right ..)] at this

theorem usageSum_nonneg (u : List (Nat × Rat)) (h : ∀ x ∈ u, 0 ≤ x.2) : 0 ≤ usageSum u :=
  usageSum_take_le u h 0

theorem mem_le_usageSum (l : List (Nat × Rat)) (hnn : ∀ x ∈ l, 0 ≤ x.2) (x : Nat × Rat) (hx : x ∈ l) :
    x.2 ≤ usageSum l := by
  induction l with
  | nil => cases hx
  | cons y ys ih =>
    have hy := hnn y List.mem_cons_self
    have hys : ∀ z ∈ ys, 0 ≤ z.2 := fun z hz => hnn z (List.mem_cons_of_mem _ hz)
    have hsum : 0 ≤ usageSum ys := usageSum_nonneg ys hys
    simp only [usageSum_cons]
    rcases List.mem_cons.mp hx with h | h
    · rw [h]
      calc y.2 = y.2 + 0 := (Rat.add_zero _).symm
        _ ≤ y.2 + usageSum ys := Rat.add_le_add_left.2 hsum
    · calc x.2 ≤ usageSum ys := ih hys h
        _ = 0 + usageSum ys := (Rat.zero_add _).symm
        _ ≤ y.2 + usageSum ys := Rat.add_le_add_right.2 hy

theorem usageOf_cons (e : Nat × Rat) (es : List (Nat × Rat)) (t : Nat) :
    usageOf (e :: es) t = if e.1 == t then some e.2 else usageOf es t := by
  unfold usageOf
  rw [List.find?_cons]
  cases e.1 == t <;> rfl

theorem usageOf_mem {u : List (Nat × Rat)} {t : Nat} {b : Rat} (h : usageOf u t = some b) : (t, b) ∈ u := by
  induction u with
  | nil => cases h
  | cons e es ih =>
    rw [usageOf_cons] at h
    split at h
    · next he =>
      rw [← eq_of_beq he, ← Option.some.inj h]
      exact List.mem_cons_self
    · exact List.mem_cons_of_mem _ (ih h)

theorem usageOf_none_ne {u : List (Nat × Rat)} {t : Nat} (h : usageOf u t = none) : ∀ x ∈ u, x.1 ≠ t := by
  intro x hx heq
  unfold usageOf at h
  simp only [Option.map_eq_none_iff, List.find?_eq_none] at h
  have := h x hx
  simp [heq] at this

theorem usageOf_of_mem {u : List (Nat × Rat)} {x : Nat × Rat} (hx : x ∈ u) : usageOf u x.1 ≠ none := by
  intro h
  exact usageOf_none_ne h x hx rfl

theorem usage_ne_nil_of_usageOf {u : List (Nat × Rat)} {t : Nat} (h : usageOf u t ≠ none) : u ≠ [] := by
  intro hu; rw [hu] at h; exact h rfl

theorem usageOf_append (u : List (Nat × Rat)) (t0 : Nat) (a : Rat) (t : Nat) :
    usageOf (u ++ [(t0, a)]) t = (usageOf u t).or (if t0 = t then some a else none) := by
  induction u with
  | nil => simp [usageOf_cons, usageOf]
  | cons x xs ih =>
    rw [List.cons_append, usageOf_cons, usageOf_cons, ih]
    split <;> rfl

theorem usageOf_append_none (u : List (Nat × Rat)) (t : Nat) (a : Rat) (h : usageOf u t = none) :
    usageOf (u ++ [(t, a)]) t = some a := by
  rw [usageOf_append, h]; simp

theorem usageOf_append_other (u : List (Nat × Rat)) (t t0 : Nat) (a : Rat) (h : t0 ≠ t) :
    usageOf (u ++ [(t0, a)]) t = usageOf u t := by
  rw [usageOf_append, if_neg h, Option.or_none]

theorem setUsage_cons (e : Nat × Rat) (es : List (Nat × Rat)) (t : Nat) (v : Rat) :
    setUsage (e :: es) t v = if e.1 == t then (t, v) :: es else e :: setUsage es t v := rfl

theorem usageOf_setUsage_eq (u : List (Nat × Rat)) (t0 : Nat) (v : Rat) (t : Nat) :
    usageOf (setUsage u t0 v) t = if t0 = t then (usageOf u t).map (fun _ => v) else usageOf u t := by
  induction u with
  | nil => simp [setUsage, usageOf]
  | cons x xs ih =>
    rw [setUsage_cons]
    by_cases hx : x.1 = t0
    · subst hx
      by_cases ht : x.1 = t
      · simp [usageOf_cons, ht]
      · simp [usageOf_cons, ht]
    · by_cases ht : t0 = t
      · subst ht
        simp [usageOf_cons, hx, ih]
      · simp only [beq_iff_eq, hx, if_false, usageOf_cons, ih, ht]

theorem usageOf_setUsage (u : List (Nat × Rat)) (t : Nat) (v b : Rat) (h : usageOf u t = some b) :
    usageOf (setUsage u t v) t = some v := by
  rw [usageOf_setUsage_eq, h]; simp

theorem usageOf_setUsage_other (u : List (Nat × Rat)) (t t0 : Nat) (v : Rat) (h : t0 ≠ t) :
    usageOf (setUsage u t0 v) t = usageOf u t := by
  rw [usageOf_setUsage_eq, if_neg h]

theorem usageSum_setUsage {u : List (Nat × Rat)} {t : Nat} {b : Rat} (v : Rat) (h : usageOf u t = some b) :
    usageSum (setUsage u t v) = usageSum u - b + v := by
  induction u with
  | nil => cases h
  | cons e es ih =>
    rw [usageOf_cons] at h
    rw [setUsage_cons]
    by_cases he : (e.1 == t) = true
    · rw [if_pos he] at h ⊢
      rw [usageSum_cons, usageSum_cons, ← Option.some.inj h, Rat.add_comm e.2, Rat.add_sub_cancel, Rat.add_comm]
    · rw [if_neg he] at h ⊢
      rw [usageSum_cons, usageSum_cons, ih h, Rat.sub_eq_add_neg, Rat.sub_eq_add_neg, ← Rat.add_assoc, ← Rat.add_assoc]

theorem mem_setUsage {u : List (Nat × Rat)} {t : Nat} {v : Rat} {x : Nat × Rat} (h : x ∈ setUsage u t v) :
    x ∈ u ∨ x = (t, v) := by
  induction u with
  | nil => cases h
  | cons e es ih =>
    rw [setUsage_cons] at h
    split at h
    · rcases List.mem_cons.mp h with h | h
      · exact Or.inr h
      · exact Or.inl (List.mem_cons_of_mem _ h)
    · rcases List.mem_cons.mp h with h | h
      · exact Or.inl (h ▸ List.mem_cons_self)
      · exact (ih h).imp_left (List.mem_cons_of_mem _)

theorem setUsage_ne_nil (u : List (Nat × Rat)) (t : Nat) (v : Rat) (h : u ≠ []) : setUsage u t v ≠ [] := by
  cases u with
  | nil => exact absurd rfl h
  | cons x xs =>
    unfold setUsage
    split <;> simp

theorem availSecs_cases (G : Int) (s : Slot) :
    availSecs G s = 0 ∨ (availSecs G s = (G : Rat) - s.used ∧ 0 ≤ (G : Rat) - s.used) := by
  unfold availSecs
  simp only []
  split
  · exact Or.inl rfl
  · by_cases h : (0 : Rat) ≤ (G : Rat) - s.used
    · exact Or.inr ⟨by rw [Rat.max_def, if_pos h], h⟩
    · exact Or.inl (by rw [Rat.max_def, if_neg h])

theorem availSecs_nonneg (G : Int) (s : Slot) : 0 ≤ availSecs G s := by
  rcases availSecs_cases G s with h | ⟨h, hp⟩
  · rw [h]; exact Rat.le_refl
  · rw [h]; exact hp

theorem availSecs_le (G : Int) (s : Slot) (h : s.used ≤ (G : Rat)) : s.used + availSecs G s ≤ (G : Rat) := by
  rcases availSecs_cases G s with h0 | ⟨h1, _⟩
  · rw [h0, Rat.add_zero]; exact h
  · rw [h1, Rat.add_comm, Rat.sub_add_cancel]; exact Rat.le_refl

theorem availSecs_le_G (G : Int) (s : Slot) (h : 0 ≤ s.used) (hG : (0 : Rat) ≤ (G : Rat)) : availSecs G s ≤ (G : Rat) := by
  rcases availSecs_cases G s with h0 | ⟨h1, _⟩
  · rw [h0]; exact hG
  · rw [h1]; grind

theorem rat_le_sub_iff (a b c : Rat) : a ≤ c - b ↔ a + b ≤ c := by
  rw [← Rat.add_le_add_right (c := b), Rat.sub_add_cancel]

theorem availSecs_pos_iff (G : Int) (s : Slot) : availSecs G s > 0 ↔ s.used ≤ (G : Rat) - 1 / 1000000 := by
  have hε : (0 : Rat) < 1 / 1000000 := by rw [Rat.div_def, Rat.one_mul]; exact Rat.inv_pos.2 (by decide)
  -- the threshold is positive, so the cut at 0 plays no part
  have hmax : ¬ max 0 ((G : Rat) - s.used) < 1 / 1000000 ↔ 1 / 1000000 ≤ (G : Rat) - s.used := by
    rw [Rat.not_lt, Rat.max_def]
    split
    · exact Iff.rfl
    · rename_i h
      exact ⟨fun h' => absurd hε (Rat.not_lt.mpr h'), fun h' => absurd (Rat.le_trans (Rat.le_of_lt hε) h') h⟩
  rw [rat_le_sub_iff, Rat.add_comm, ← rat_le_sub_iff, ← hmax]
  unfold availSecs
  simp only []
  split
  · rename_i h
    exact ⟨fun h0 => absurd h0 (Rat.lt_irrefl), fun hn => absurd h hn⟩
  · rename_i h
    exact ⟨fun _ => h, fun _ => Std.lt_of_lt_of_le hε (Rat.not_lt.mp h)⟩
/-- the slot invariant: what C01 needs of every (resource, slot) -/
structure SlotInv (G : Int) (s : Slot) : Prop where
  used_nonneg : 0 ≤ s.used
  used_le : s.used ≤ (G : Rat)
  sum_le : usageSum s.usage ≤ s.used
  entries_nonneg : ∀ e ∈ s.usage, 0 ≤ e.2

theorem slotInv_empty (G : Int) (hG : 0 < G) : SlotInv G {} :=
  ⟨Rat.le_refl, Rat.intCast_nonneg.mpr (Int.le_of_lt hG), Rat.le_refl, fun _ he => nomatch he⟩

theorem book_inv (G : Int) (s : Slot) (t : Nat) (h : SlotInv G s) : SlotInv G (s.book G t) := by
  obtain ⟨h1, h2, h3, h4⟩ := h
  have a0 := availSecs_nonneg G s
  have a1 := availSecs_le G s h2
  refine ⟨Rat.add_nonneg h1 a0, a1, ?_, ?_⟩
  · show usageSum (s.usage ++ [(t, availSecs G s)]) ≤ s.used + availSecs G s
    rw [usageSum_append, usageSum_cons, usageSum_nil, Rat.add_zero]
    exact Rat.add_le_add_right.mpr h3
  · intro e he
    rcases List.mem_append.mp he with he | he
    · exact h4 e he
    · rw [List.mem_singleton.mp he]; exact a0

theorem book_other (G : Int) (s : Slot) (t t0 : Nat) (h : t0 ≠ t) :
    usageOf (s.book G t0).usage t = usageOf s.usage t := by
  simp only [Slot.book]; exact usageOf_append_other _ _ _ _ h

theorem book_entry (G : Int) (s : Slot) (t t' : Nat) (h : usageOf (s.book G t).usage t' ≠ none) :
    usageOf s.usage t' ≠ none ∨ t' = t := by
  by_cases ht : t = t'
  · exact Or.inr ht.symm
  · rw [book_other G s t' t ht] at h; exact Or.inl h

theorem reserve_inv (G : Int) (s : Slot) (off : Rat) (h0 : 0 ≤ off) (h1 : off ≤ (G : Rat)) (h : SlotInv G s) :
    SlotInv G (s.reserve off) := by
  obtain ⟨a, b, c, d⟩ := h
  unfold Slot.reserve
  split
  · exact ⟨h0, h1, by simp only []; grind, d⟩
  · exact ⟨a, b, c, d⟩

theorem reserve_usage (s : Slot) (c : Rat) : (s.reserve c).usage = s.usage := by
  unfold Slot.reserve; split <;> rfl

theorem reserve_used (s : Slot) (c : Rat) (h : s.used ≤ c) : (s.reserve c).used = c := by
  unfold Slot.reserve
  split
  · rfl
  · grind

theorem reserve_used_ge (s : Slot) (c : Rat) : c ≤ (s.reserve c).used := by
  unfold Slot.reserve
  split
  · exact Rat.le_refl
  · rename_i h; exact Rat.not_lt.mp h

theorem reserve_idem (s : Slot) (c : Rat) : (s.reserve c).reserve c = s.reserve c := by
  unfold Slot.reserve
  split
  · simp
  · simp

theorem release_arith {used booked actual S S' G : Rat} (hs : S' = S - booked + actual) (hnn : 0 ≤ S') (c : S ≤ used)
    (b : used ≤ G) (hpos : booked - actual > 0) :
    0 ≤ used - booked + actual ∧ used - booked + actual ≤ G ∧ S' ≤ used - booked + actual := by
  have h3 : S' ≤ used - booked + actual := by
    rw [hs, Rat.sub_eq_add_neg, Rat.sub_eq_add_neg]
    exact Rat.add_le_add_right.mpr (Rat.add_le_add_right.mpr c)
  have h2 : used - booked + actual ≤ used := by grind
  exact ⟨Rat.le_trans hnn h3, Rat.le_trans h2 b, h3⟩

theorem release_inv (G : Int) (s : Slot) (t : Nat) (actual : Rat) (h0 : 0 ≤ actual) (h : SlotInv G s) :
    SlotInv G (s.release t actual) := by
  obtain ⟨a, b, c, d⟩ := h
  unfold Slot.release
  cases hu : usageOf s.usage t with
  | none => exact ⟨a, b, c, d⟩
  | some booked =>
    simp only []
    split
    · rename_i hpos
      have hs := usageSum_setUsage actual hu
      have hent : ∀ e ∈ setUsage s.usage t actual, 0 ≤ e.2 := by
        intro e he
        rcases mem_setUsage he with h' | h'
        · exact d e h'
        · rw [h']; exact h0
      have hnn : 0 ≤ usageSum (setUsage s.usage t actual) := usageSum_take_le _ hent 0
      obtain ⟨h1, h2, h3⟩ := release_arith hs hnn c b hpos
      exact ⟨h1, h2, h3, hent⟩
    · exact ⟨a, b, c, d⟩

theorem release_secs (s : Slot) (t : Nat) (actual b : Rat) (h : usageOf s.usage t = some b) (hle : actual ≤ b) :
    usageOf (s.release t actual).usage t = some actual := by
  unfold Slot.release
  simp only [h]
  split
  · exact usageOf_setUsage _ _ _ _ h
  · have : actual = b := by grind
    rw [this]; exact h

theorem release_other (s : Slot) (t t0 : Nat) (a : Rat) (h : t0 ≠ t) :
    usageOf (s.release t0 a).usage t = usageOf s.usage t := by
  unfold Slot.release
  split
  · rfl
  · split
    · exact usageOf_setUsage_other _ _ _ _ h
    · rfl

theorem release_entry (s : Slot) (t t' : Nat) (a : Rat) (h : usageOf (s.release t a).usage t' ≠ none) :
    usageOf s.usage t' ≠ none := by
  by_cases ht : t = t'
  · subst ht
    cases hu : usageOf s.usage t with
    | none =>
      have : s.release t a = s := by unfold Slot.release; simp only [hu]
      rw [this] at h; exact absurd hu h
    | some b => simp
  · rw [release_other s t' t a ht] at h; exact h

theorem release_of_nil (s : Slot) (t : Nat) (a : Rat) (h : s.usage = []) : s.release t a = s := by
  unfold Slot.release
  rw [h]; simp [usageOf]

theorem release_usage_nil_iff (s : Slot) (t : Nat) (a : Rat) : (s.release t a).usage = [] ↔ s.usage = [] := by
  constructor
  · intro h
    by_cases hn : s.usage = []
    · exact hn
    · exfalso
      unfold Slot.release at h
      cases hu : usageOf s.usage t with
      | none => simp only [hu] at h; exact hn h
      | some b =>
        simp only [hu] at h
        split at h
        · exact setUsage_ne_nil _ _ _ hn h
        · exact hn h
  · intro h
    rw [release_of_nil s t a h]; exact h

theorem mem_release_usage {s : Slot} {t : Nat} {a : Rat} {x : Nat × Rat} (h : x ∈ (s.release t a).usage) :
    x ∈ s.usage ∨ x = (t, a) := by
  unfold Slot.release at h
  cases hu : usageOf s.usage t with
  | none => rw [hu] at h; exact Or.inl h
  | some b =>
    simp only [hu] at h
    split at h
    · exact mem_setUsage h
    · exact Or.inl h

/-- booked portions can be laid out inside the slot without overlapping: with
    `start k = Σ first k entries`, `end k = start k + entry k`, consecutive portions do not overlap and
    the last one ends at or before `used ≤ G` -/
theorem layout_disjoint (G : Int) (s : Slot) (h : SlotInv G s) (i j : Nat) (hij : i < j) (hj : j ≤ s.usage.length) :
    0 ≤ usageSum (s.usage.take i) ∧
    usageSum (s.usage.take (i + 1)) ≤ usageSum (s.usage.take j) ∧
    usageSum (s.usage.take j) ≤ (G : Rat) := by
  exact ⟨usageSum_take_mono _ h.entries_nonneg 0 i (Nat.zero_le i),
    usageSum_take_mono _ h.entries_nonneg (i + 1) j hij,
    Rat.le_trans (usageSum_take_le _ h.entries_nonneg j) (Rat.le_trans h.sum_le h.used_le)⟩

end SP
