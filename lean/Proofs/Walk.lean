import Proofs.SchedInv
/-!
Facts about one slot of the walk of one task.  Credit and tail release: `finish_exact`, `needSecs_eq`, and what `bookSlot`
credits, records and leaves alone.  Dates: `Env.time` is monotone (`time_mono`), a working-time gap only moves a date on
(`lt_time_idx_succ`, `lenWalk_ge`, `depDate_ge`), the forward bound `earliestStart` dominates (start | end) + gap of every
dependency (`earliestStart_ge_dep`), and cursor plus offset give the bound back (`cursorOf_exact`,
`slot_ge_bound`).  `scheduleSlot` by the three ways a slot can go (`scheduleSlot_dated`, `scheduleSlot_go`,
`scheduleSlot_fin`, together `scheduleSlot_effort_cases`) and the cursor it returns (`advance_cur`, `scheduleSlot_cur`).
-/
namespace SP

/-- seconds times hourly efficiency, either way of dividing by 3600 -/
theorem div_mul_swap (x eff : Rat) : x / 3600 * eff = x * (eff / 3600) := by
  rw [Rat.div_def, Rat.div_def, Rat.mul_assoc, Rat.mul_comm _ eff]

/-- the arithmetic core of the tail release: the seconds a finishing task keeps give exactly the
    missing effort, and fit into what it booked -/
theorem finish_exact (effort before a eff : Rat) (heff : 0 < eff) (hlt : before < effort)
    (hge : effort ≤ before + a / 3600 * eff) :
    let need := (effort - before) / (eff / 3600)
    0 < need ∧ need ≤ a ∧ before + need / 3600 * eff = effort := by
  intro need
  have hc := rate_pos eff heff
  have hmul : need * (eff / 3600) = effort - before := Rat.div_mul_cancel (Rat.ne_of_gt hc)
  have hadd : before + (effort - before) = effort := by rw [Rat.add_comm, Rat.sub_add_cancel]
  refine ⟨?_, ?_, ?_⟩
  · refine (Rat.lt_div_iff hc).2 ?_
    rw [Rat.zero_mul]
    exact (Rat.lt_iff_sub_pos _ _).1 hlt
  · -- compare after multiplying by the rate `eff / 3600` and adding `before`
    refine Rat.le_of_mul_le_mul_right (c := eff / 3600) ?_ hc
    rw [hmul, ← Rat.add_le_add_left (c := before), hadd, ← div_mul_swap]
    exact hge
  · rw [div_mul_swap, hmul, hadd]

/-- with the slot's booking `a` recorded as the task's entry, `needSecs` is that exact amount -/
theorem needSecs_eq (e : Env) (σ : St) (t : Nat) (w : Walk) (before : Rat) (r : Nat) (a : Rat)
    (heff : 0 < (e.resD r).eff) (hlt : before < (e.taskD t).effort)
    (hge : (e.taskD t).effort ≤ before + a / 3600 * (e.resD r).eff)
    (ha : a ≤ (e.G : Rat)) (hu : usageOf (σ.led.get r w.cur).usage t = some a) :
    needSecs e σ t w before r = ((e.taskD t).effort - before) / ((e.resD r).eff / 3600) := by
  have fe := finish_exact (e.taskD t).effort before a (e.resD r).eff heff hlt hge
  simp only [] at fe
  unfold needSecs
  simp only [hu, Option.getD_some, heff, if_true]
  -- what is needed is at most what was booked, and that at most a slot
  rw [rat_min_eq_left (Rat.le_trans fe.2.1 ha), rat_min_eq_left fe.2.1]

/-- effort credited for a booking = seconds booked x efficiency / 3600 -/
theorem bookSlot_gain (e : Env) (σ : St) (r : Nat) (i : Int) (t : Nat) :
    (bookSlot e σ r i t).2 = availSecs e.G (σ.led.get r i) / 3600 * (e.resD r).eff := rfl

/-- and exactly those seconds are appended to the slot's usage list for the task -/
theorem bookSlot_entry (e : Env) (σ : St) (r : Nat) (i : Int) (t : Nat) :
    ((bookSlot e σ r i t).1.led.get r i).usage = (σ.led.get r i).usage ++ [(t, availSecs e.G (σ.led.get r i))] := by
  rw [bookSlot_eq, incAll_led]
  simp [Ledger.get_set, Slot.book]

theorem bookSlot_used (e : Env) (σ : St) (r : Nat) (i : Int) (t : Nat) :
    ((bookSlot e σ r i t).1.led.get r i).used = (σ.led.get r i).used + availSecs e.G (σ.led.get r i) := by
  rw [bookSlot_eq, incAll_led]
  simp [Ledger.get_set, Slot.book]

/-- a booking touches no other (resource, slot) of the ledger -/
theorem bookSlot_frame (e : Env) (σ : St) (r : Nat) (i : Int) (t : Nat) (r' : Nat) (i' : Int)
    (h : ¬ (r = r' ∧ i = i')) : (bookSlot e σ r i t).1.led.get r' i' = σ.led.get r' i' := by
  rw [bookSlot_eq, incAll_led]
  simp [Ledger.get_set, h]

/-! ### bounds -/

theorem time_mono (e : Env) (hG : 0 < e.G) (i j : Int) (h : i ≤ j) : e.time i ≤ e.time j := by
  unfold Env.time
  have : i * e.G ≤ j * e.G := Int.mul_le_mul_of_nonneg_right h (Int.le_of_lt hG)
  omega

/-- the slot after the one a date lies in starts after the date (`idx` truncates towards zero) -/
theorem lt_time_idx_succ (e : Env) (hG : 0 < e.G) (dt : Int) : dt < e.time (e.idx dt + 1) := by
  unfold Env.time Env.idx
  have h1 := Int.mul_tdiv_add_tmod (dt - e.start) e.G
  have h2 : Int.tmod (dt - e.start) e.G < e.G := Int.tmod_lt_of_pos _ hG
  have e1 : (Int.tdiv (dt - e.start) e.G + 1) * e.G = e.G * Int.tdiv (dt - e.start) e.G + e.G := by
    rw [Int.add_mul, Int.mul_comm]; omega
  omega

/-- a `gaplength` walk never ends before the date it starts from -/
theorem lenWalk_ge (e : Env) (hG : 0 < e.G) (f : Nat) (rem i dt : Int) (h : dt ≤ e.time (i + 1)) :
    dt ≤ lenWalk e f rem i dt := by
  induction f generalizing rem i dt with
  | zero => exact Int.le_refl _
  | succ f ih =>
    -- where the walk goes on, it does so from the start of the next slot
    have hnext : ∀ rem', dt ≤ lenWalk e f rem' (i + 1) (e.time (i + 1)) := fun _ =>
      Int.le_trans h (ih _ _ _ (time_mono e hG _ _ (Int.le_add_of_nonneg_right (by decide))))
    unfold lenWalk
    by_cases hc : (decide (rem > 0) && decide (i ≤ e.upper)) = true
    · rw [if_pos hc]
      simp only [Bool.and_eq_true, decide_eq_true_eq] at hc
      by_cases hw : e.projWork i = true
      · rw [if_pos hw]
        by_cases hu : e.G - (dt - e.time i) ≥ rem
        · rw [if_pos hu]
          exact Int.le_add_of_nonneg_right (Int.le_of_lt hc.1)
        · rw [if_neg hu]
          exact hnext _
      · rw [if_neg hw]
        exact hnext _
    · rw [if_neg hc]
      exact Int.le_refl _

/-- the date a dependency contributes is at or after (start | end) + gapduration: a `gaplength` only moves it on -/
theorem depDate_ge (e : Env) (hG : 0 < e.G) (dp : Dep) (dt : Int) : dt + dp.gap ≤ depDate e dp dt := by
  unfold depDate
  split
  · rename_i hc
    simp only [Bool.and_eq_true, decide_eq_true_eq, beq_iff_eq] at hc
    rw [hc.2]
    have := lenWalk_ge e hG (e.size.toNat + 3) dp.glen (e.idx dt) dt (Int.le_of_lt (lt_time_idx_succ e hG dt))
    omega
  · exact Int.le_refl _

/-- the forward bound dominates the date every dependency contributes -/
theorem earliestStart_ge_depDate (e : Env) (σ : St) (deps : List Dep) (base : Int) (dp : Dep) (hd : dp ∈ deps) (dt : Int)
    (hdt : (if dp.onstart then (σ.tst dp.target).start else (σ.tst dp.target).stop) = some dt) :
    depDate e dp dt ≤ earliestStart e σ deps base := by
  induction deps generalizing base with
  | nil => cases hd
  | cons x xs ih =>
    unfold earliestStart
    rw [List.foldl_cons]
    rcases List.mem_cons.mp hd with rfl | hm
    · -- after `dp`'s step the accumulator is ≥ `depDate`; the rest of the fold only grows
      rw [hdt]
      exact Int.le_trans (Int.le_max_right _ _) (earliestStart_ge e σ xs _)
    · exact ih _ hm

/-- the forward bound dominates every dependency's (start | end) + gap -/
theorem earliestStart_ge_dep (e : Env) (hG : 0 < e.G) (σ : St) (deps : List Dep) (base : Int) (dp : Dep) (hd : dp ∈ deps) (dt : Int)
    (hdt : (if dp.onstart then (σ.tst dp.target).start else (σ.tst dp.target).stop) = some dt) :
    dt + dp.gap ≤ earliestStart e σ deps base :=
  Int.le_trans (depDate_ge e hG dp dt) (earliestStart_ge_depDate e σ deps base dp hd dt hdt)

/-- the cursor and the in-slot offset reconstruct the bound exactly -/
theorem cursorOf_exact (e : Env) (wf : WF e) (x : Int) (hx : e.start ≤ x) :
    ((e.time (cursorOf e x).1 : Int) : Rat) + (cursorOf e x).2 = (x : Rat) := by
  unfold cursorOf
  simp only []
  split
  · have : e.time (e.idx x) + (x - e.time (e.idx x)) = x := by omega
    exact_mod_cast this
  · rename_i hle
    rw [Int.le_antisymm (idx_floor e wf.G_pos x hx).1 (Int.not_lt.mp hle)]
    exact Rat.add_zero _

/-- every slot at or after the bound's slot starts, together with the offset, at or after the bound -/
theorem slot_ge_bound (e : Env) (wf : WF e) (x : Int) (hx : e.start ≤ x) (cur : Int) (hc : (cursorOf e x).1 ≤ cur) :
    (x : Rat) ≤ ((e.time cur : Int) : Rat) + (cursorOf e x).2 := by
  have h1 := cursorOf_exact e wf x hx
  have : e.time (cursorOf e x).1 ≤ e.time cur := time_mono e wf.G_pos _ _ hc
  have : ((e.time (cursorOf e x).1 : Int) : Rat) ≤ ((e.time cur : Int) : Rat) := by exact_mod_cast this
  grind

theorem advance_cur (fwd : Bool) (w w1 : Walk) : (advance fwd w w1).cur = w1.cur + (if fwd then 1 else -1) := rfl
theorem advance_done (fwd : Bool) (w w1 : Walk) : (advance fwd w w1).done = w1.done := rfl

/-- the test that sends `scheduleSlot` into its booking branch -/
theorem effortTask_branch (e : Env) (t : Nat) (hm : (e.taskD t).milestone = false) (hpos : 0 < (e.taskD t).effort) :
    ((e.taskD t).milestone || (e.taskD t).effort == 0) = false := by
  rw [hm, beq_eq_false_iff_ne.mpr (Rat.ne_of_gt hpos)]
  rfl

theorem scheduleSlot_dated (e : Env) (σ : St) (t : Nat) (w : Walk)
    (h : ((e.taskD t).milestone || (e.taskD t).effort == 0) = true) :
    ∃ x, scheduleSlot e σ t w = (σ.setT t x, w, false) := by
  unfold scheduleSlot
  dsimp only
  rw [if_pos h]
  cases (σ.tst t).forward
  · cases (σ.tst t).stop.isSome <;> exact ⟨_, rfl⟩
  · cases ((σ.tst t).start.isSome && (e.taskD t).startProvided) <;> exact ⟨_, rfl⟩

theorem scheduleSlot_booking (e : Env) (σ : St) (t : Nat) (w : Walk)
    (h : ((e.taskD t).milestone || (e.taskD t).effort == 0) = false) :
    scheduleSlot e σ t w =
      if (bookResources e σ t w).2.done ≥ (e.taskD t).effort then
        let f := finishTask e (bookResources e σ t w).1 t (bookResources e σ t w).2 w.done (σ.tst t).forward
        let σ3 := f.1.setT t
          (if (σ.tst t).forward then { f.1.tst t with stop := some f.2 } else { f.1.tst t with start := some f.2 })
        ({ σ3 with warnings :=
            if finishIsTie e (bookResources e σ t w).1 t (bookResources e σ t w).2 w.done then σ3.warnings ++ ["rounding-tie"]
            else σ3.warnings }, (bookResources e σ t w).2, false)
      else ((bookResources e σ t w).1, (bookResources e σ t w).2, true) := by
  unfold scheduleSlot
  simp only [h, Bool.false_eq_true, if_false]

theorem scheduleSlot_go (e : Env) (σ : St) (t : Nat) (w : Walk)
    (h : ((e.taskD t).milestone || (e.taskD t).effort == 0) = false)
    (hd : ¬ (bookResources e σ t w).2.done ≥ (e.taskD t).effort) :
    scheduleSlot e σ t w = ((bookResources e σ t w).1, (bookResources e σ t w).2, true) :=
  (scheduleSlot_booking e σ t w h).trans (if_neg hd)

theorem scheduleSlot_fin (e : Env) (σ : St) (t : Nat) (w : Walk)
    (h : ((e.taskD t).milestone || (e.taskD t).effort == 0) = false)
    (hd : (bookResources e σ t w).2.done ≥ (e.taskD t).effort) :
    (scheduleSlot e σ t w).2 = ((bookResources e σ t w).2, false) ∧
    (scheduleSlot e σ t w).1.led =
      (finishTask e (bookResources e σ t w).1 t (bookResources e σ t w).2 w.done (σ.tst t).forward).1.led ∧
    (scheduleSlot e σ t w).1.ts =
      ((finishTask e (bookResources e σ t w).1 t (bookResources e σ t w).2 w.done (σ.tst t).forward).1.setT t
        (if (σ.tst t).forward then
          { (finishTask e (bookResources e σ t w).1 t (bookResources e σ t w).2 w.done (σ.tst t).forward).1.tst t with
            stop := some (finishTask e (bookResources e σ t w).1 t (bookResources e σ t w).2 w.done (σ.tst t).forward).2 }
         else
          { (finishTask e (bookResources e σ t w).1 t (bookResources e σ t w).2 w.done (σ.tst t).forward).1.tst t with
            start := some (finishTask e (bookResources e σ t w).1 t (bookResources e σ t w).2 w.done (σ.tst t).forward).2 })).ts := by
  have hs := (scheduleSlot_booking e σ t w h).trans (if_pos hd)
  exact ⟨congrArg (·.2) hs, congrArg (·.1.led) hs, congrArg (·.1.ts) hs⟩

theorem scheduleSlot_snd (e : Env) (σ : St) (t : Nat) (w : Walk) :
    (scheduleSlot e σ t w).2.1 = w ∨ (scheduleSlot e σ t w).2.1 = (bookResources e σ t w).2 := by
  cases h : ((e.taskD t).milestone || (e.taskD t).effort == 0) with
  | true =>
    obtain ⟨x, hx⟩ := scheduleSlot_dated e σ t w h
    exact Or.inl (by rw [hx])
  | false =>
    by_cases hd : (bookResources e σ t w).2.done ≥ (e.taskD t).effort
    · exact Or.inr (by rw [(scheduleSlot_fin e σ t w h hd).1])
    · exact Or.inr (by rw [scheduleSlot_go e σ t w h hd])

theorem scheduleSlot_cur (e : Env) (σ : St) (t : Nat) (w : Walk) : (scheduleSlot e σ t w).2.1.cur = w.cur := by
  rcases scheduleSlot_snd e σ t w with h | h
  · rw [h]
  · rw [h]
    exact (bookResources_walk e σ t w).1

/-! ### the same for an effort task, from `milestone = false` and `0 < effort` -/

theorem scheduleSlot_effort_cases (e : Env) (σ : St) (t : Nat) (w : Walk) (hm : (e.taskD t).milestone = false)
    (hpos : 0 < (e.taskD t).effort) :
    ((bookResources e σ t w).2.done < (e.taskD t).effort ∧
      scheduleSlot e σ t w = ((bookResources e σ t w).1, (bookResources e σ t w).2, true)) ∨
    ((e.taskD t).effort ≤ (bookResources e σ t w).2.done ∧ (scheduleSlot e σ t w).2.2 = false ∧
      (scheduleSlot e σ t w).1.led =
        (finishTask e (bookResources e σ t w).1 t (bookResources e σ t w).2 w.done (σ.tst t).forward).1.led) := by
  by_cases hfin : (bookResources e σ t w).2.done ≥ (e.taskD t).effort
  · obtain ⟨h2, hled, -⟩ := scheduleSlot_fin e σ t w (effortTask_branch e t hm hpos) hfin
    exact Or.inr ⟨hfin, by rw [h2], hled⟩
  · exact Or.inl ⟨Rat.not_le.mp hfin, scheduleSlot_go e σ t w (effortTask_branch e t hm hpos) hfin⟩

end SP
