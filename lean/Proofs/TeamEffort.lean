import Proofs.TeamAll
import Proofs.Visits
import Proofs.Counted
/-!
C03 for teams.  One slot of any team (`scheduleSlot_team`): the members hold the same entries, in the slots visited only,
and after the tail release every member keeps the same seconds.  With one common efficiency (`scheduleSlot_tacc`): what
`bookResources` credits is exactly (the seconds every member was booked for) x efficiency / 3600; one task and whole
scenarios follow by the walk and loop inductions.
-/
namespace SP

/-- **`bookResources` of a team with one common efficiency, one slot**: nobody is booked and nothing is credited, or every
    member is booked for the same `a` seconds and exactly `a x efficiency / 3600` is credited -/
theorem bookResources_team_full (e : Env) (wf : WF e) (σ : St) (t : Nat) (w : Walk) (sel : List Nat) (η : Rat)
    (hinv : Inv e σ) (ha : (e.taskD t).hasAlloc = true) (hsel : selectedOf e σ t w = sel)
    (hteam : isTeam e t sel = true) (hnd : sel.Nodup) (heff : ∀ r ∈ sel, (e.resD r).eff = η) (hη : 0 < η)
    (hclean : ∀ r ∈ sel, usageOf (σ.led.get r w.cur).usage t = none) :
    (bookResources e σ t w).2.selected = some sel ∧ (bookResources e σ t w).2.cur = w.cur ∧
    (((∀ r ∈ sel, usageOf ((bookResources e σ t w).1.led.get r w.cur).usage t = none) ∧
        (bookResources e σ t w).2.done = w.done ∧ (bookResources e σ t w).2.last = w.last) ∨
     (∃ a, 0 < a ∧ a ≤ (e.G : Rat) ∧
        (∀ r ∈ sel, usageOf ((bookResources e σ t w).1.led.get r w.cur).usage t = some a) ∧
        (bookResources e σ t w).2.done = w.done + a / 3600 * η ∧
        (bookResources e σ t w).2.last = sel.getLast?)) := by
  obtain ⟨hs, hc, h | ⟨a, ha0, haG, hent, hd, hl⟩⟩ := bookResources_team_cases e wf σ t w sel hinv ha hsel hteam hnd hclean
  · exact ⟨hs, hc, Or.inl h⟩
  · refine ⟨hs, hc, Or.inr ⟨a, ha0, haG, hent, ?_, hl⟩⟩
    have hne := isTeam_ne_nil hteam
    -- all gains are equal and positive, so the largest of them (and of 0) is that gain
    have hx := credit_pos a η ha0 hη
    rw [hd, foldMax_const sel _ (a / 3600 * η) (fun r hr => by rw [heff r hr]) hne, rat_max_eq_right (Rat.le_of_lt hx)]

/-- the tail release of one member `x`: its slot ends with `need` seconds for `t`, every other slot is as it was -/
theorem releaseOthers_one (σ : St) (t : Nat) (cur : Int) (rl x : Nat) (need a : Rat) (hle : need ≤ a)
    (hrl : usageOf (σ.led.get rl cur).usage t = some need)
    (hx : x ≠ rl → usageOf (σ.led.get x cur).usage t = some a) :
    usageOf ((releaseOthers σ t cur rl need [x]).led.get x cur).usage t = some need ∧
    ∀ m, m ≠ x → (releaseOthers σ t cur rl need [x]).led.get m cur = σ.led.get m cur := by
  unfold releaseOthers
  rw [List.foldl_cons, List.foldl_nil]
  by_cases h : x = rl
  · rw [if_pos (beq_iff_eq.mpr h)]
    exact ⟨h ▸ hrl, fun _ _ => rfl⟩
  · rw [if_neg (fun hb => h (beq_iff_eq.mp hb))]
    simp only [hx h, rat_min_eq_left hle, Ledger.get_set]
    refine ⟨?_, fun m hm => ?_⟩
    · rw [if_pos ⟨trivial, trivial⟩]
      exact release_secs _ t need a (hx h) hle
    · rw [if_neg (fun hh => hm hh.1.symm)]

theorem releaseOthers_team (t : Nat) (cur : Int) (rl : Nat) (need a : Rat) (hle : need ≤ a) :
    ∀ (l : List Nat) (σ : St), l.Nodup →
      usageOf (σ.led.get rl cur).usage t = some need →
      (∀ m ∈ l, m ≠ rl → usageOf (σ.led.get m cur).usage t = some a) →
      (∀ m ∈ l, usageOf ((releaseOthers σ t cur rl need l).led.get m cur).usage t = some need) ∧
      (∀ m, m ∉ l → (releaseOthers σ t cur rl need l).led.get m cur = σ.led.get m cur) := by
  intro l
  induction l with
  | nil => intro σ _ _ _; exact ⟨fun m hm => absurd hm List.not_mem_nil, fun _ _ => rfl⟩
  | cons x xs ih =>
    intro σ hnd hrl hpre
    obtain ⟨hx, hnd'⟩ := List.nodup_cons.mp hnd
    -- the head first: its slot is settled, and the rest of the list does not come back to it
    obtain ⟨hself, hother⟩ := releaseOthers_one σ t cur rl x need a hle hrl (hpre x List.mem_cons_self)
    have hstep : releaseOthers σ t cur rl need (x :: xs) =
        releaseOthers (releaseOthers σ t cur rl need [x]) t cur rl need xs := rfl
    have hrl' : usageOf ((releaseOthers σ t cur rl need [x]).led.get rl cur).usage t = some need := by
      by_cases h : rl = x
      · subst h; exact hself
      · rw [hother rl h]; exact hrl
    obtain ⟨hin, hout⟩ := ih _ hnd' hrl' fun m hm hne => by
      rw [hother m (fun h => hx (h ▸ hm))]; exact hpre m (List.mem_cons_of_mem _ hm) hne
    rw [hstep]
    refine ⟨fun m hm => ?_, fun m hm => ?_⟩
    · rcases List.mem_cons.mp hm with rfl | h
      · rw [hout m hx]; exact hself
      · exact hin m h
    · rw [hout m (fun h => hm (List.mem_cons_of_mem _ h)), hother m (fun h => hm (h ▸ List.mem_cons_self))]

/-- the finishing slot of a team: every member keeps exactly the seconds the task still needed -/
theorem finishTask_team (e : Env) (σ : St) (t : Nat) (w : Walk) (before : Rat) (fwd : Bool) (sel : List Nat) (rl : Nat)
    (a : Rat) (hlast : w.last = some rl) (hsel : w.selected = some sel) (hrl : rl ∈ sel) (hnd : sel.Nodup)
    (hent : ∀ r ∈ sel, usageOf (σ.led.get r w.cur).usage t = some a)
    (hle : needSecs e σ t w before rl ≤ a) :
    ∀ r ∈ sel, usageOf ((finishTask e σ t w before fwd).1.led.get r w.cur).usage t = some (needSecs e σ t w before rl) := by
  unfold finishTask
  simp only [hlast, hsel, Option.getD_some]
  have hrl' : usageOf (({ σ with led := σ.led.set rl w.cur ((σ.led.get rl w.cur).release t (needSecs e σ t w before rl)) } : St).led.get rl w.cur).usage t
      = some (needSecs e σ t w before rl) := by
    simp only [Ledger.get_set, and_self, if_true]
    exact release_secs _ t _ a (hent rl hrl) hle
  have hpre : ∀ m ∈ sel, m ≠ rl →
      usageOf (({ σ with led := σ.led.set rl w.cur ((σ.led.get rl w.cur).release t (needSecs e σ t w before rl)) } : St).led.get m w.cur).usage t = some a := by
    intro m hm hne
    have hrm : ¬ rl = m := fun h => hne h.symm
    simp only [Ledger.get_set, hrm, false_and, if_false]
    exact hent m hm
  exact (releaseOthers_team t w.cur rl _ a hle sel _ hnd hrl' hpre).1

theorem getLast?_mem_of_ne_nil (l : List Nat) (h : l ≠ []) : ∃ x, l.getLast? = some x ∧ x ∈ l := by
  cases hl : l.getLast? with
  | none => rw [List.getLast?_eq_none_iff] at hl; exact absurd hl h
  | some x => exact ⟨x, rfl, List.mem_of_getLast? hl⟩

/-- **`bookResources` of any team, one slot**: nobody is booked and the last booked member is as before, or every member is
    booked for the same `a` seconds and the last booked member is the last of the team -/
theorem bookResources_team_last (e : Env) (wf : WF e) (σ : St) (t : Nat) (w : Walk) (sel : List Nat)
    (hinv : Inv e σ) (ha : (e.taskD t).hasAlloc = true) (hsel : selectedOf e σ t w = sel)
    (hteam : isTeam e t sel = true) (hnd : sel.Nodup)
    (hclean : ∀ r ∈ sel, usageOf (σ.led.get r w.cur).usage t = none) :
    (bookResources e σ t w).2.selected = some sel ∧ (bookResources e σ t w).2.cur = w.cur ∧
    (((∀ r ∈ sel, usageOf ((bookResources e σ t w).1.led.get r w.cur).usage t = none)) ∨
     (∃ a, 0 < a ∧
        (∀ r ∈ sel, usageOf ((bookResources e σ t w).1.led.get r w.cur).usage t = some a) ∧
        (bookResources e σ t w).2.last = sel.getLast?)) := by
  obtain ⟨hs, hc, ⟨h, -⟩ | ⟨a, ha0, -, hent, -, hl⟩⟩ := bookResources_team_cases e wf σ t w sel hinv ha hsel hteam hnd hclean
  · exact ⟨hs, hc, Or.inl h⟩
  · exact ⟨hs, hc, Or.inr ⟨a, ha0, hent, hl⟩⟩

theorem needSecs_le_booked (e : Env) (σ : St) (t : Nat) (w : Walk) (before : Rat) (r : Nat) (a : Rat)
    (h : usageOf (σ.led.get r w.cur).usage t = some a) : needSecs e σ t w before r ≤ a := by
  unfold needSecs
  simp only [h, Option.getD_some]
  exact Std.min_le_right

theorem finishTask_keeps_none (e : Env) (σ : St) (t : Nat) (w : Walk) (before : Rat) (fwd : Bool) (m : Nat) (i : Int)
    (h : usageOf (σ.led.get m i).usage t = none) :
    usageOf ((finishTask e σ t w before fwd).1.led.get m i).usage t = none :=
  finishTask_slot (P := fun s => usageOf s.usage t = none)
    (fun s a hs => Classical.not_not.mp (fun hne => release_entry s t t a hne hs)) e σ w before fwd m i h

def SameAll (t : Nat) (sel : List Nat) (σ : St) : Prop :=
  ∀ r ∈ sel, ∀ r' ∈ sel, ∀ i, usageOf (σ.led.get r i).usage t = usageOf (σ.led.get r' i).usage t

/-- walk invariant of a team task -/
structure TS (σ : St) (t : Nat) (sel : List Nat) (fwd : Bool) (w : Walk) (vis : List Int) : Prop where
  only : ∀ r ∈ sel, ∀ i, i ∉ vis → usageOf (σ.led.get r i).usage t = none
  before : ∀ i ∈ vis, (if fwd then i < w.cur else w.cur < i)
  same : SameAll t sel σ

theorem SameAll.of_led {t : Nat} {sel : List Nat} {σ σ' : St} (hl : σ'.led = σ.led) (h : SameAll t sel σ) :
    SameAll t sel σ' := by
  unfold SameAll; rw [hl]; exact h

/-- one slot of a team task: the walk invariant is kept while the task goes on; finished or not, the members agree afterwards
    and hold nothing of the task outside the slots visited -/
theorem scheduleSlot_team (e : Env) (wf : WF e) (σ : St) (t : Nat) (sel : List Nat) (fwd : Bool) (w : Walk)
    (vis : List Int) (hinv : Inv e σ) (ha : (e.taskD t).hasAlloc = true) (hm : (e.taskD t).milestone = false)
    (hsel : selectedOf e σ t w = sel) (hteam : isTeam e t sel = true) (hnd : sel.Nodup)
    (hpos : 0 < (e.taskD t).effort) (hacc : TS σ t sel fwd w vis) :
    ((scheduleSlot e σ t w).2.2 = true →
        TS (scheduleSlot e σ t w).1 t sel fwd (advance fwd w (scheduleSlot e σ t w).2.1) (w.cur :: vis) ∧
        (scheduleSlot e σ t w).2.1.selected = some sel) ∧
    SameAll t sel (scheduleSlot e σ t w).1 ∧
    ∀ r ∈ sel, ∀ i, i ∉ w.cur :: vis → usageOf ((scheduleSlot e σ t w).1.led.get r i).usage t = none := by
  have hcur_notin : w.cur ∉ vis := cur_not_visited hacc.before
  have hclean : ∀ r ∈ sel, usageOf (σ.led.get r w.cur).usage t = none := fun r hr => hacc.only r hr _ hcur_notin
  obtain ⟨hselw, hcurw, hcase⟩ := bookResources_team_last e wf σ t w sel hinv ha hsel hteam hnd hclean
  have hother := bookResources_other e σ t w
  have hz := effortTask_branch e t hm hpos
  have hne' := isTeam_ne_nil hteam
  -- the members agree after the bookings of this slot
  have hsameB : SameAll t sel (bookResources e σ t w).1 := by
    intro r hr r' hr' i
    by_cases hi : i = w.cur
    · subst hi
      rcases hcase with hnone | ⟨a, _, hent, _⟩
      · rw [hnone r hr, hnone r' hr']
      · rw [hent r hr, hent r' hr']
    · rw [hother r i hi, hother r' i hi]
      exact hacc.same r hr r' hr' i
  have honly : ∀ r ∈ sel, ∀ i, i ∉ w.cur :: vis → usageOf ((bookResources e σ t w).1.led.get r i).usage t = none := by
    intro r hr i hi
    rw [hother r i (fun h => hi (h ▸ List.mem_cons_self))]
    exact hacc.only r hr i (fun h => hi (List.mem_cons_of_mem _ h))
  by_cases hfin : (bookResources e σ t w).2.done ≥ (e.taskD t).effort
  · obtain ⟨hw2, hled, -⟩ := scheduleSlot_fin e σ t w hz hfin
    have hfo := finishTask_other e (bookResources e σ t w).1 t (bookResources e σ t w).2 w.done (σ.tst t).forward
    -- after the release the members hold one and the same entry in this slot: none if nothing was booked here
    obtain ⟨x, hx⟩ : ∃ x, ∀ r ∈ sel, usageOf ((finishTask e (bookResources e σ t w).1 t (bookResources e σ t w).2 w.done
        (σ.tst t).forward).1.led.get r w.cur).usage t = x := by
      rcases hcase with hnone | ⟨a, ha0, hent, hlast⟩
      · exact ⟨none, fun m hm' => finishTask_keeps_none e _ t _ _ _ m w.cur (hnone m hm')⟩
      · obtain ⟨rl, hrl, hrlmem⟩ := getLast?_mem_of_ne_nil sel hne'
        have hle := needSecs_le_booked e (bookResources e σ t w).1 t (bookResources e σ t w).2 w.done rl a
          (by rw [hcurw]; exact hent rl hrlmem)
        have hft := finishTask_team e (bookResources e σ t w).1 t (bookResources e σ t w).2 w.done (σ.tst t).forward sel rl a
          (by rw [hlast, hrl]) hselw hrlmem hnd (by rw [hcurw]; exact hent) hle
        rw [hcurw] at hft
        exact ⟨_, hft⟩
    refine ⟨fun hc => by rw [hw2] at hc; exact Bool.noConfusion hc, SameAll.of_led hled fun r hr r' hr' i => ?_,
      fun r hr i hi => ?_⟩
    · by_cases hi : i = w.cur
      · subst hi; rw [hx r hr, hx r' hr']
      · rw [hfo r i (by rw [hcurw]; exact hi), hfo r' i (by rw [hcurw]; exact hi)]
        exact hsameB r hr r' hr' i
    · rw [hled, hfo r i (by rw [hcurw]; exact fun h => hi (h ▸ List.mem_cons_self))]
      exact honly r hr i hi
  · rw [scheduleSlot_go e σ t w hz hfin]
    refine ⟨fun _ => ⟨⟨honly, fun i hi => ?_, hsameB⟩, hselw⟩, hsameB, honly⟩
    · show if fwd = true then i < (advance fwd w (bookResources e σ t w).2).cur
        else (advance fwd w (bookResources e σ t w).2).cur < i
      rw [advance_cur, hcurw]
      exact visited_step hacc.before i hi

theorem scheduleSlot_ts (e : Env) (wf : WF e) (σ : St) (t : Nat) (sel : List Nat) (fwd : Bool) (w : Walk)
    (vis : List Int) (hinv : Inv e σ) (ha : (e.taskD t).hasAlloc = true) (hm : (e.taskD t).milestone = false)
    (hsel : selectedOf e σ t w = sel) (hteam : isTeam e t sel = true) (hnd : sel.Nodup)
    (hpos : 0 < (e.taskD t).effort) (hacc : TS σ t sel fwd w vis) :
    ((scheduleSlot e σ t w).2.2 = true →
        TS (scheduleSlot e σ t w).1 t sel fwd (advance fwd w (scheduleSlot e σ t w).2.1) (w.cur :: vis) ∧
        (scheduleSlot e σ t w).2.1.selected = some sel) ∧
    SameAll t sel (scheduleSlot e σ t w).1 :=
  ⟨(scheduleSlot_team e wf σ t sel fwd w vis hinv ha hm hsel hteam hnd hpos hacc).1,
   (scheduleSlot_team e wf σ t sel fwd w vis hinv ha hm hsel hteam hnd hpos hacc).2.1⟩

/-- accounting invariant of the walk of a team task whose members `sel` share the efficiency `η` -/
structure TAcc (e : Env) (σ : St) (t : Nat) (sel : List Nat) (η : Rat) (fwd : Bool) (w : Walk) (vis : List Int) : Prop where
  only : ∀ r ∈ sel, ∀ i, i ∉ vis → usageOf (σ.led.get r i).usage t = none
  before : ∀ i ∈ vis, (if fwd then i < w.cur else w.cur < i)
  credit : ∀ r ∈ sel, w.done = sumOver σ.led r t vis / 3600 * η
  nodup : vis.Nodup
  same : ∀ r ∈ sel, ∀ r' ∈ sel, ∀ i, usageOf (σ.led.get r i).usage t = usageOf (σ.led.get r' i).usage t

/-- outcome of a finished team walk: every member holds exactly the effort, and all members hold the same seconds in every slot -/
def TExact (e : Env) (σ : St) (t : Nat) (sel : List Nat) (η : Rat) (vis : List Int) : Prop :=
  vis.Nodup ∧ (∀ r ∈ sel, ∀ i, i ∉ vis → usageOf (σ.led.get r i).usage t = none) ∧
  (∀ r ∈ sel, sumOver σ.led r t vis / 3600 * η = (e.taskD t).effort) ∧
  ∀ r ∈ sel, ∀ r' ∈ sel, ∀ i, usageOf (σ.led.get r i).usage t = usageOf (σ.led.get r' i).usage t

theorem TExact.of_led {e : Env} {σ σ' : St} {t : Nat} {sel : List Nat} {η : Rat} {vis : List Int} (hl : σ'.led = σ.led)
    (h : TExact e σ t sel η vis) : TExact e σ' t sel η vis := by
  unfold TExact at *; rw [hl]; exact h

theorem scheduleSlot_tacc (e : Env) (wf : WF e) (σ : St) (t : Nat) (sel : List Nat) (η : Rat) (fwd : Bool) (w : Walk)
    (vis : List Int) (hinv : Inv e σ)
    (ha : (e.taskD t).hasAlloc = true) (hm : (e.taskD t).milestone = false)
    (hsel : selectedOf e σ t w = sel) (hteam : isTeam e t sel = true) (hnd : sel.Nodup)
    (heff : ∀ r ∈ sel, (e.resD r).eff = η) (hη : 0 < η)
    (hlt : w.done < (e.taskD t).effort) (hpos : 0 < (e.taskD t).effort)
    (hacc : TAcc e σ t sel η fwd w vis) :
    ((scheduleSlot e σ t w).2.2 = true →
        TAcc e (scheduleSlot e σ t w).1 t sel η fwd (advance fwd w (scheduleSlot e σ t w).2.1) (w.cur :: vis) ∧
        (scheduleSlot e σ t w).2.1.selected = some sel ∧
        (scheduleSlot e σ t w).2.1.done < (e.taskD t).effort) ∧
    ((scheduleSlot e σ t w).2.2 = false → TExact e (scheduleSlot e σ t w).1 t sel η (w.cur :: vis)) := by
  have hcur_notin : w.cur ∉ vis := cur_not_visited hacc.before
  have hclean : ∀ r ∈ sel, usageOf (σ.led.get r w.cur).usage t = none := fun r hr => hacc.only r hr _ hcur_notin
  obtain ⟨hselw, hcurw, hcase⟩ := bookResources_team_full e wf σ t w sel η hinv ha hsel hteam hnd heff hη hclean
  have hother := bookResources_other e σ t w
  have hz := effortTask_branch e t hm hpos
  have hnodup : (w.cur :: vis).Nodup := List.nodup_cons.mpr ⟨hcur_notin, hacc.nodup⟩
  have hvis_same : ∀ r i, i ∈ vis → (bookResources e σ t w).1.led.get r i = σ.led.get r i := by
    intro r i hi; apply hother; intro h; exact hcur_notin (h ▸ hi)
  have hsum_vis : ∀ r, sumOver (bookResources e σ t w).1.led r t vis = sumOver σ.led r t vis :=
    fun r => sumOver_congr _ _ r t vis (fun i hi => by rw [hvis_same r i hi])
  have hne' := isTeam_ne_nil hteam
  -- where the entries lie and that the members agree is the team's walk invariant; the accounting is added here
  obtain ⟨hgo, hsame', honly'⟩ := scheduleSlot_team e wf σ t sel fwd w vis hinv ha hm hsel hteam hnd hpos
    ⟨hacc.only, hacc.before, hacc.same⟩
  by_cases hfin : (bookResources e σ t w).2.done ≥ (e.taskD t).effort
  · obtain ⟨hw2, hled, -⟩ := scheduleSlot_fin e σ t w hz hfin
    refine ⟨fun hc => by rw [hw2] at hc; exact Bool.noConfusion hc, fun _ => ?_⟩
    rcases hcase with ⟨_, hd, _⟩ | ⟨a, ha0, haG, hent, hd, hlast⟩
    · rw [hd] at hfin; exact absurd hlt (Rat.not_lt.mpr hfin)
    · obtain ⟨rl, hrl, hrlmem⟩ := getLast?_mem_of_ne_nil sel hne'
      have hlast' : (bookResources e σ t w).2.last = some rl := by rw [hlast, hrl]
      have hge : (e.taskD t).effort ≤ w.done + a / 3600 * (e.resD rl).eff := by
        rw [heff rl hrlmem, ← hd]; exact hfin
      have heffrl : 0 < (e.resD rl).eff := by rw [heff rl hrlmem]; exact hη
      have hneed := needSecs_eq e (bookResources e σ t w).1 t (bookResources e σ t w).2 w.done rl a heffrl hlt hge haG
        (by rw [hcurw]; exact hent rl hrlmem)
      have fe := finish_exact (e.taskD t).effort w.done a (e.resD rl).eff heffrl hlt hge
      simp only [] at fe
      have hft := finishTask_team e (bookResources e σ t w).1 t (bookResources e σ t w).2 w.done (σ.tst t).forward sel rl a
        hlast' hselw hrlmem hnd (by rw [hcurw]; exact hent) (by rw [hneed]; exact fe.2.1)
      rw [hcurw, hneed] at hft
      have hfo := finishTask_other e (bookResources e σ t w).1 t (bookResources e σ t w).2 w.done (σ.tst t).forward
      have hkeep : ∀ r i, i ≠ w.cur → (finishTask e (bookResources e σ t w).1 t (bookResources e σ t w).2 w.done
          (σ.tst t).forward).1.led.get r i = σ.led.get r i := by
        intro r i hi
        rw [hfo r i (by rw [hcurw]; exact hi), hother r i hi]
      refine ⟨hnodup, honly', fun r hr => ?_, hsame'⟩
      rw [hled]
      simp only [sumOver]
      have h1 : taskSecs ((finishTask e (bookResources e σ t w).1 t (bookResources e σ t w).2 w.done
          (σ.tst t).forward).1.led.get r w.cur) t = ((e.taskD t).effort - w.done) / ((e.resD rl).eff / 3600) := by
        unfold taskSecs; rw [hft r hr]; rfl
      have h2 : sumOver (finishTask e (bookResources e σ t w).1 t (bookResources e σ t w).2 w.done
          (σ.tst t).forward).1.led r t vis = sumOver σ.led r t vis :=
        sumOver_congr _ _ r t vis (fun i hi => by rw [hkeep r i (fun h => hcur_notin (h ▸ hi))])
      rw [h1, h2, ← credit_add _ _ _ η (hacc.credit r hr), heff rl hrlmem]
      rw [heff rl hrlmem] at fe
      exact fe.2.2
  · rw [scheduleSlot_go e σ t w hz hfin] at hgo ⊢
    refine ⟨fun _ => ⟨⟨(hgo rfl).1.only, (hgo rfl).1.before, fun r hr => ?_, hnodup, (hgo rfl).1.same⟩, hselw,
      Rat.not_le.mp hfin⟩, fun hc => Bool.noConfusion hc⟩
    show (bookResources e σ t w).2.done = sumOver (bookResources e σ t w).1.led r t (w.cur :: vis) / 3600 * η
    simp only [sumOver]
    rw [hsum_vis r]
    rcases hcase with ⟨hnone, hd, _⟩ | ⟨a, _, _, hent, hd, _⟩
    · have : taskSecs ((bookResources e σ t w).1.led.get r w.cur) t = 0 := by unfold taskSecs; rw [hnone r hr]; rfl
      rw [this, hd, Rat.zero_add]
      exact hacc.credit r hr
    · have : taskSecs ((bookResources e σ t w).1.led.get r w.cur) t = a := by unfold taskSecs; rw [hent r hr]; rfl
      rw [this, hd]
      exact credit_add _ a _ η (hacc.credit r hr)

theorem TExact.of_same {e : Env} {σ σ' : St} {t : Nat} {sel : List Nat} {η : Rat} {vis : List Int}
    (hs : SameEntries σ σ' t) (h : TExact e σ t sel η vis) : TExact e σ' t sel η vis := by
  unfold TExact at *
  obtain ⟨h1, h2, h3, h4⟩ := h
  refine ⟨h1, fun r hr i hi => by rw [hs r i]; exact h2 r hr i hi, fun r hr => ?_,
    fun r hr r' hr' i => by rw [hs r i, hs r' i]; exact h4 r hr r' hr' i⟩
  rw [sumOver_congr σ.led σ'.led r t vis (fun i _ => hs r i)]; exact h3 r hr

/-- a team task: its selection is always the list `sel` of more than one pairwise different members that share the
    efficiency `η` -/
structure TeamElig (e : Env) (t : Nat) (sel : List Nat) (η : Rat) : Prop where
  leaf : (e.taskD t).leaf = true
  alloc : (e.taskD t).hasAlloc = true
  nomile : (e.taskD t).milestone = false
  effort : 0 < (e.taskD t).effort
  pick : ∀ σ c, selectBest e σ (e.taskD t).alloc (e.taskD t).alt (e.taskD t).effort c = sel
  many : 1 < sel.length
  nodup : sel.Nodup
  eff : ∀ r ∈ sel, (e.resD r).eff = η
  effpos : 0 < η

theorem TeamElig.isTeam {e : Env} {t : Nat} {sel : List Nat} {η : Rat} (h : TeamElig e t sel η) : isTeam e t sel = true := by
  unfold SP.isTeam
  have h1 := h.effort
  have h2 := h.many
  simp [h1, h2]

theorem team_walkStart (e : Env) (σ : St) (t : Nat) (sel : List Nat) (η : Rat) (hel : TeamElig e t sel η)
    (hclean : ∀ m ∈ sel, ∀ i, usageOf (σ.led.get m i).usage t = none) (fwd : Bool) :
    selectedOf e (walkStart e σ t).1 t (walkStart e σ t).2 = sel ∧
    TAcc e (walkStart e σ t).1 t sel η fwd (walkStart e σ t).2 [] :=
  ⟨by unfold selectedOf walkStart; exact hel.pick _ _,
   fun m hm i _ => hclean m hm i, fun i hi => absurd hi List.not_mem_nil,
   fun m _ => by show (0 : Rat) = sumOver _ m t [] / 3600 * η; simp only [sumOver]; grind, List.nodup_nil,
   fun m hm m' hm' i => (hclean m hm i).trans (hclean m' hm' i).symm⟩

/-- **one team task, end to end**: a successful `scheduleTask` leaves every member with entries in the same slots and nowhere
    else, whose seconds x efficiency / 3600 add up to exactly the effort -/
theorem scheduleTask_texact (e : Env) (wf : WF e) (σ : St) (t : Nat) (sel : List Nat) (η : Rat)
    (hinv : Inv e σ) (hel : TeamElig e t sel η) (hnd : (σ.tst t).done = false)
    (hclean : ∀ r ∈ sel, ∀ i, usageOf (σ.led.get r i).usage t = none)
    (hok : (scheduleTask e σ t).2 = true) :
    ∃ vis, TExact e (scheduleTask e σ t).1 t sel η vis := by
  obtain ⟨-, hfin, heq⟩ := scheduleTask_ok e wf σ t hnd hok
  have hslot := fun σ' w vis hinv (h : TAcc e σ' t sel η (σ.tst t).forward w vis ∧ selectedOf e σ' t w = sel ∧
      w.done < (e.taskD t).effort) =>
    scheduleSlot_tacc e wf σ' t sel η (σ.tst t).forward w vis hinv hel.alloc hel.nomile h.2.1 hel.isTeam hel.nodup
      hel.eff hel.effpos h.2.2 hel.effort h.1
  obtain ⟨σl, wl, visl, hI, hinvl, -, hcl, h1, -⟩ := walkLoop_last
    (I := fun σ' w vis => TAcc e σ' t sel η (σ.tst t).forward w vis ∧ selectedOf e σ' t w = sel ∧
      w.done < (e.taskD t).effort) wf hel.leaf
    (fun σ' w vis hinv hw h hc _ _ => by
      obtain ⟨h1, h2, h3⟩ := (hslot σ' w vis hinv h).1 hc
      exact ⟨h1, selectedOf_some e _ t _ sel h2, h3⟩)
    (e.size.toNat + 3) (walkStart e σ t).1 (walkStart e σ t).2 [] (inv_setT _ _ hinv) (walkStart_walkOk e wf σ t)
    ⟨(team_walkStart e σ t sel η hel hclean _).2, (team_walkStart e σ t sel η hel hclean true).1, hel.effort⟩ hfin
  rw [heq]
  refine ⟨wl.cur :: visl, TExact.of_led rfl ?_⟩
  rw [h1]
  exact (hslot σl wl visl hinvl hI).2 hcl

def DoneTExact (e : Env) (σ : St) : Prop :=
  ∀ t sel η, TeamElig e t sel η → (σ.tst t).done = true → ∃ vis, TExact e σ t sel η vis

structure TPickInv (e : Env) (σ : St) (tasks : List Nat) : Prop where
  inv : Inv e σ
  nodup : tasks.Nodup
  leaf : ∀ t ∈ tasks, (e.taskD t).leaf = true
  pending : ∀ t ∈ tasks, (σ.tst t).done = false ∧ ∀ r i, usageOf (σ.led.get r i).usage t = none
  exact : DoneTExact e σ

theorem tpickInv_step (e : Env) (wf : WF e) (σ : St) (tasks : List Nat) (t0 : Nat) (h : TPickInv e σ tasks)
    (hmem : t0 ∈ tasks) : TPickInv e (updateContainers e (scheduleTask e σ t0).1) (tasks.erase t0) := by
  obtain ⟨hinv', hnd', hlf', -, hrest⟩ := round_worklist e wf σ tasks t0 h.inv h.nodup h.leaf hmem
  refine ⟨hinv', hnd', hlf', fun t ht => ?_, fun t sel η hel hd => ?_⟩
  · obtain ⟨htm, hts, hse⟩ := hrest t ht
    rw [hts]
    exact ⟨(h.pending t htm).1, fun r i => (hse r i).trans ((h.pending t htm).2 r i)⟩
  · by_cases heq : t = t0
    · subst heq
      rw [updateContainers_leaf e _ t hel.leaf] at hd
      obtain ⟨hnd, hclean⟩ := h.pending t hmem
      obtain ⟨vis, hv⟩ := scheduleTask_texact e wf σ t sel η h.inv hel hnd (fun r _ i => hclean r i)
        (scheduleTask_done e σ t hnd hd)
      exact ⟨vis, TExact.of_led (updateContainers_led e _) hv⟩
    · obtain ⟨hts, hse⟩ := round_other e σ t0 t hel.leaf heq
      rw [hts] at hd
      obtain ⟨vis, hv⟩ := h.exact t sel η hel hd
      exact ⟨vis, TExact.of_same hse hv⟩

/-- **C03 for teams, end to end.**  After scheduling any well-formed project, every completed effort task whose allocation
    always selects the same team `sel` (more than one member, pairwise different, one common efficiency `η`) has, in the final
    ledger, entries of every member in one common set of slots and nowhere else, the same number of seconds in each slot for
    all members, and these seconds weighted by `η` add up to exactly the requested effort. -/
theorem runScenario_team_effort_exact (e : Env) (wf : WF e) (t : Nat) (sel : List Nat) (η : Rat) (hel : TeamElig e t sel η)
    (hdone : ((runScenario e).tst t).done = true) : ∃ vis, TExact e (runScenario e) t sel η vis := by
  obtain ⟨rest, -, h⟩ := scenario_induct (I := fun tasks _ σ => TPickInv e σ tasks)
    (fun tasks _ σ t0 h hf => tpickInv_step e wf σ tasks t0 h (List.mem_of_find?_eq_some hf))
    (fun _ _ σ _ h => ⟨Inv.of_eq (σ := σ) rfl rfl h.inv, h.nodup, h.leaf, h.pending, h.exact⟩)
    ⟨loopStart_inv e wf, todoOf_nodup e _, todoOf_leaf e _,
     fun t ht => ⟨(todoOf_loopStart e t ht).2.2.2.1, (todoOf_loopStart e t ht).2.2.2.2⟩,
     fun t _ _ _ hd => absurd hd (by rw [loopStart_done]; exact Bool.noConfusion)⟩
  unfold runScenario at hdone ⊢
  rw [finishScenario_leafT e _ t hel.leaf] at hdone
  obtain ⟨vis, hv⟩ := h.exact t sel η hel hdone
  exact ⟨vis, TExact.of_led (finishScenario_led e _) hv⟩

end SP
