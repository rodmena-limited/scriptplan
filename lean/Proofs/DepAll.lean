import Proofs.DepGlobal
import Proofs.Containers
/-!
C04 for whole scenarios, forward mode, **every kind of predecessor**: leaf tasks and containers.  A container that is
marked scheduled keeps its dates (the roll-up skips scheduled containers, and `finishScenario` recomputes the same minimum
and maximum), so the date a successor was held against is the date of the final schedule.
-/
namespace SP

variable {D : Nat → Prop}

theorem runScenario_depsOn (e : Env) (tr : Tree e) (hD : StartsAtBound D e) : DepsOn D e (runScenario e) :=
  fun t ht hd hfw dp hdp => runScenario_depsOn_of e hD t ht hd hfw dp hdp
    (finishScenario_sameDates e _ (scheduleScenario_cont e tr).1 (scheduleScenario_cont e tr).2 dp.target)

/-- **C04, forward mode, end to end, every kind of predecessor.**  After scheduling any well-formed project whose task tree
    is well-formed: every completed forward effort task without a start of its own starts at or after
    `(start | end) + gap` of every predecessor named by one of its edges — a leaf task or a container, by an edge of its
    own, inherited from an enclosing container, or created by `precedes` on the other side — and every such predecessor is
    scheduled.  The dates are those of the final schedule. -/
theorem runScenario_depsOKAll (e : Env) (wf : WF e) (tr : Tree e) : DepsOn (FwdEff e) e (runScenario e) :=
  runScenario_depsOn e tr (fwdEff_startsAtBound e wf)

end SP
