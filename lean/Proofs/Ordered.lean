import Proofs.FrameAlt
/-!
C06 / C11: the reported dates of a scheduled effort task are ordered, start ≤ end — for every task with a single selected
resource and every task with one primary and one alternative resource, forward or backward.
-/
namespace SP

def DoneOrdered (e : Env) (σ : St) : Prop :=
  (∀ t r, Elig e t r → (σ.tst t).done = true → Ordered σ t) ∧
  (∀ t r1 r2, EligAlt e t r1 r2 → (σ.tst t).done = true → Ordered σ t)

structure OrdInv (e : Env) (σ : St) (tasks : List Nat) : Prop where
  inv : Inv e σ
  nodup : tasks.Nodup
  leaf : ∀ t ∈ tasks, (e.taskD t).leaf = true
  inrange : ∀ t ∈ tasks, t < σ.ts.size
  pending : ∀ t ∈ tasks, (σ.tst t).done = false ∧ ∀ r i, usageOf (σ.led.get r i).usage t = none
  ok : DoneOrdered e σ

/-- **start ≤ end, end to end**: after scheduling any well-formed project, every completed effort task with a single selected
    resource, or with one primary and one alternative resource, has a reported start and a reported end with start ≤ end —
    forward or backward, whether it spans many slots or begins and finishes inside one. -/
theorem runScenario_ordered (e : Env) (wf : WF e) : DoneOrdered e (runScenario e) := by
  refine ⟨fun t r hel hd => ?_, fun t r1 r2 hel hd => ?_⟩
  · obtain ⟨-, -, -, ho⟩ := runScenario_single e wf t _ hel.toIn hd
    exact ho
  · obtain ⟨-, -, -, ho⟩ := runScenario_single e wf t _ hel.toIn hd
    exact ho

end SP
