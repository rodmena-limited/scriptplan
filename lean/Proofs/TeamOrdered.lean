import Proofs.FrameTeamBack
import Proofs.Ordered
/-!
start ≤ end for teams of one common efficiency (both modes): the team analogue of `Proofs/Ordered`.  The fact about one
task is `scheduleTask_framedT_both`.
-/
namespace SP

def DoneOrderedT (e : Env) (σ : St) : Prop :=
  ∀ t sel η, TeamElig e t sel η → (σ.tst t).done = true → Ordered σ t

structure OrdInvT (e : Env) (σ : St) (tasks : List Nat) : Prop where
  inv : Inv e σ
  nodup : tasks.Nodup
  leaf : ∀ t ∈ tasks, (e.taskD t).leaf = true
  inrange : ∀ t ∈ tasks, t < σ.ts.size
  pending : ∀ t ∈ tasks, (σ.tst t).done = false ∧ ∀ r i, usageOf (σ.led.get r i).usage t = none
  ok : DoneOrderedT e σ

theorem ordInvT_step (e : Env) (wf : WF e) (σ : St) (tasks : List Nat) (t0 : Nat) (h : OrdInvT e σ tasks)
    (hmem : t0 ∈ tasks) : OrdInvT e (updateContainers e (scheduleTask e σ t0).1) (tasks.erase t0) := by
  obtain ⟨h1, h2, h3, h4, h5⟩ := round_pending e wf σ tasks t0 h.inv h.nodup h.leaf h.inrange h.pending hmem
  exact ⟨h1, h2, h3, h4, h5, fun t sel η hel => round_done
    (E := fun t => TeamElig e t sel η) (P := fun σ t => Ordered σ t)
    (fun _ h => h.leaf) (fun _ _ _ _ hts hP => Ordered.of_tst hts hP)
    (fun σ t hinv hel hb hnd hcl hok => by
      -- a team has a member, and the dates are those the framing on that member speaks of
      obtain ⟨r, hr⟩ := List.exists_mem_of_length_pos (Nat.lt_trans Nat.zero_lt_one hel.many)
      exact (scheduleTask_framedT_both e wf σ t sel η r hr hinv hel hb hnd hcl hok).2)
    σ t0 h.inv (h.inrange t0 hmem) (h.pending t0 hmem) (fun t hel => h.ok t sel η hel) t hel⟩

/-- **start ≤ end for teams, end to end**: after scheduling any well-formed project, every completed team task whose members
    share one efficiency has a reported start and a reported end with start ≤ end (both modes) -/
theorem runScenario_orderedT (e : Env) (wf : WF e) : DoneOrderedT e (runScenario e) := by
  obtain ⟨rest, -, h⟩ := scenario_induct (I := fun tasks _ σ => OrdInvT e σ tasks)
    (fun tasks _ σ t0 h hf => ordInvT_step e wf σ tasks t0 h (List.mem_of_find?_eq_some hf))
    (fun _ _ σ _ h => ⟨Inv.of_eq (σ := σ) rfl rfl h.inv, h.nodup, h.leaf, h.inrange, h.pending, h.ok⟩)
    ⟨loopStart_inv e wf, todoOf_nodup e _, todoOf_leaf e _, fun t ht => (todoOf_loopStart e t ht).2.1,
     fun t ht => ⟨(todoOf_loopStart e t ht).2.2.2.1, (todoOf_loopStart e t ht).2.2.2.2⟩,
     fun t _ _ _ hd => absurd hd (by rw [loopStart_done]; exact Bool.noConfusion)⟩
  intro t sel η hel hdn
  unfold runScenario at hdn ⊢
  rw [finishScenario_leafT e _ t hel.leaf] at hdn
  exact Ordered.of_tst (finishScenario_leafT e _ t hel.leaf) (h.ok t sel η hel hdn)

end SP
