import Proofs.SchedInv
/-!
`wfCheck`, a decidable check of the well-formedness `WF` of an environment, which the driver evaluates on every case, and
its soundness `wfCheck_sound`.  Before it, what the accessors `resD`, `taskD`, the chain walks and the limit lists return for
indices outside the tables.
-/
namespace SP

theorem resD_oob (e : Env) (r : Nat) (h : e.res.size ≤ r) : e.resD r = {} := by
  unfold Env.resD; simp [Array.getD, h]; omega

theorem taskD_oob (e : Env) (t : Nat) (h : e.tasks.size ≤ t) : e.taskD t = {} := by
  unfold Env.taskD; simp [Array.getD, h]; omega

theorem resChainAux_oob (e : Env) (f r : Nat) (h : e.res.size ≤ r) : e.resChainAux f r = [r] := by
  cases f with
  | zero => rfl
  | succ f => simp [Env.resChainAux, resD_oob e r h]

theorem taskChainAux_oob (e : Env) (f t : Nat) (h : e.tasks.size ≤ t) : e.taskChainAux f t = [t] := by
  cases f with
  | zero => rfl
  | succ f => simp [Env.taskChainAux, taskD_oob e t h]

theorem resLimitIds_oob (e : Env) (r : Nat) (h : e.res.size ≤ r) : resLimitIds e r = [] := by
  simp [resLimitIds, Env.resChain, resChainAux_oob e _ r h, resD_oob e r h]

theorem taskLimitIds_oob (e : Env) (t : Nat) (h : e.tasks.size ≤ t) : taskLimitIds e t = [] := by
  simp [taskLimitIds, Env.taskChain, taskChainAux_oob e _ t h, taskD_oob e t h]

/-- every index beyond the table behaves like the first one beyond it, which `wfCheck` covers -/
theorem resLimitIds_clip (e : Env) (r : Nat) : resLimitIds e (min r e.res.size) = resLimitIds e r := by
  by_cases hr : r < e.res.size
  · rw [Nat.min_eq_left (Nat.le_of_lt hr)]
  · rw [Nat.min_eq_right (Nat.le_of_not_lt hr), resLimitIds_oob e _ (Nat.le_refl _), resLimitIds_oob e r (Nat.le_of_not_lt hr)]

theorem taskLimitIds_clip (e : Env) (t : Nat) : taskLimitIds e (min t e.tasks.size) = taskLimitIds e t := by
  by_cases ht : t < e.tasks.size
  · rw [Nat.min_eq_left (Nat.le_of_lt ht)]
  · rw [Nat.min_eq_right (Nat.le_of_not_lt ht), taskLimitIds_oob e _ (Nat.le_refl _), taskLimitIds_oob e t (Nat.le_of_not_lt ht)]

/-- decidable well-formedness: slot length positive, efficiencies positive, efforts non-negative, and
    no limit counter is shared between the resource side and the task side of any booking -/
def wfCheck (e : Env) : Bool :=
  decide (0 < e.G) &&
  (List.range e.res.size).all (fun r => decide (0 < (e.resD r).eff)) &&
  (List.range e.tasks.size).all (fun t => decide (0 ≤ (e.taskD t).effort)) &&
  (List.range (e.res.size + 1)).all (fun r => (List.range (e.tasks.size + 1)).all (fun t =>
    decide ((resLimitIds e r ++ taskLimitIds e t).Nodup)))

theorem wfCheck_sound (e : Env) (h : wfCheck e = true) : WF e := by
  unfold wfCheck at h
  simp only [Bool.and_eq_true, List.all_eq_true, List.mem_range, decide_eq_true_eq] at h
  obtain ⟨⟨⟨hG, heff⟩, heffort⟩, hnd⟩ := h
  refine ⟨hG, ?_, ?_, ?_⟩
  · intro r
    by_cases hr : r < e.res.size
    · exact heff r hr
    · rw [resD_oob e r (by omega)]; decide
  · intro t
    by_cases ht : t < e.tasks.size
    · exact heffort t ht
    · rw [taskD_oob e t (by omega)]; decide
  · intro r t
    rw [← resLimitIds_clip, ← taskLimitIds_clip]
    exact hnd _ (Nat.lt_succ_of_le (Nat.min_le_right ..)) _ (Nat.lt_succ_of_le (Nat.min_le_right ..))

end SP
