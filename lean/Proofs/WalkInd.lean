import Proofs.Closed
/-!
`scheduleTask` without its plumbing.  A call that is not a no-op enters the walk in the state and at the cursor `walkStart`;
if it succeeds, the walk succeeded and the task received `finalT` (`scheduleTask_ok`).  A walk that succeeds ran through
slots that did not finish the task and then through one that did: an invariant kept by the former holds when the latter is
entered — `walkLoop_ind` for an invariant of state and walk, `walkLoop_last` for one that also records the slots visited and
may use `Inv` and `WalkOk`.  What the theorems about one task add to this is their lemma about `scheduleSlot`.
-/
namespace SP

/-- the state and the walk with which `scheduleTask` tries its first slot -/
def walkStart (e : Env) (σ : St) (t : Nat) : St × Walk :=
  (σ.setT t (preStartT e σ t (initCursor e σ t).1),
   { cur := preStartCursor e σ t (initCursor e σ t).1, offset := (initCursor e σ t).2 })

theorem walkStart_walkOk (e : Env) (wf : WF e) (σ : St) (t : Nat) : WalkOk e t (walkStart e σ t).2 :=
  ⟨(initCursor_off e σ t wf).1, (initCursor_off e σ t wf).2, wf.effort_nonneg t⟩

/-- a successful `scheduleTask` of a task that was not done: the cursor was inside the horizon, the walk succeeded, and the
    task's attributes are `finalT` of what the walk left -/
theorem scheduleTask_ok (e : Env) (wf : WF e) (σ : St) (t : Nat) (hnd : (σ.tst t).done = false)
    (hok : (scheduleTask e σ t).2 = true) :
    WalkIn e (walkStart e σ t).2 ∧
    (walkLoop e t (σ.tst t).forward (e.size.toNat + 3) (walkStart e σ t).1 (walkStart e σ t).2).2.2 = true ∧
    (scheduleTask e σ t).1 =
      (walkLoop e t (σ.tst t).forward (e.size.toNat + 3) (walkStart e σ t).1 (walkStart e σ t).2).1.setT t
        (finalT e t (σ.tst t).forward (walkStart e σ t).2.cur
          ((walkLoop e t (σ.tst t).forward (e.size.toNat + 3) (walkStart e σ t).1 (walkStart e σ t).2).1.tst t)
          (walkLoop e t (σ.tst t).forward (e.size.toNat + 3) (walkStart e σ t).1 (walkStart e σ t).2).2.1) := by
  unfold scheduleTask at hok ⊢
  unfold walkStart
  simp only [hnd, Bool.false_eq_true, if_false] at hok ⊢
  split at hok
  · exact Bool.noConfusion hok
  · rename_i hb
    simp only [hb, Bool.false_eq_true, if_false]
    simp only [Bool.or_eq_true, decide_eq_true_eq, not_or, Int.not_lt] at hb
    split at hok
    · exact Bool.noConfusion hok
    · rename_i hfin
      simp only [hfin, Bool.false_eq_true, if_false]
      exact ⟨⟨hb.1, initCursor_room e σ t wf, hb.2⟩, by simpa using hfin, trivial⟩

theorem walkStart_alloc (e : Env) (σ : St) (t : Nat) (ha : (e.taskD t).hasAlloc = true) :
    walkStart e σ t = (σ.setT t (σ.tst t), { cur := (initCursor e σ t).1, offset := (initCursor e σ t).2 }) := by
  unfold walkStart preStartCursor preStartT
  simp [ha]

theorem scheduleTask_state (e : Env) (wf : WF e) (σ : St) (t : Nat) (hnd : (σ.tst t).done = false) :
    (∃ x y, (scheduleTask e σ t).1 = (σ.setT t x).setT t y) ∨
    (WalkIn e (walkStart e σ t).2 ∧ ∃ x, (scheduleTask e σ t).1 =
      (walkLoop e t (σ.tst t).forward (e.size.toNat + 3) (walkStart e σ t).1 (walkStart e σ t).2).1.setT t x) := by
  by_cases hb : (preStartCursor e σ t (initCursor e σ t).1 < 0 || preStartCursor e σ t (initCursor e σ t).1 > e.upper) = true
  · simp only [scheduleTask, hnd, Bool.false_eq_true, if_false, hb, if_true]
    exact Or.inl ⟨_, _, rfl⟩
  · refine Or.inr ⟨?_, ?_⟩
    · simp only [Bool.or_eq_true, decide_eq_true_eq, not_or, Int.not_lt] at hb
      exact ⟨hb.1, initCursor_room e σ t wf, hb.2⟩
    · simp only [scheduleTask, hnd, Bool.false_eq_true, if_false, hb, walkStart]
      split
      · exact ⟨_, rfl⟩
      · exact ⟨_, rfl⟩

theorem scheduleTask_led (e : Env) (σ : St) (t : Nat) :
    (scheduleTask e σ t).1.led = σ.led ∨
    (scheduleTask e σ t).1.led =
      (walkLoop e t (σ.tst t).forward (e.size.toNat + 3) (walkStart e σ t).1 (walkStart e σ t).2).1.led := by
  unfold scheduleTask walkStart
  dsimp only
  generalize walkLoop e t _ _ _ _ = r
  by_cases hd : (σ.tst t).done = true
  · rw [if_pos hd]
    exact Or.inl rfl
  · rw [if_neg hd]
    split
    · exact Or.inl rfl
    · split
      · exact Or.inr rfl
      · exact Or.inr rfl

theorem WalkIn.advance {e : Env} (wf : WF e) {fwd : Bool} {w w1 : Walk} (h0 : 0 ≤ (advance fwd w w1).cur)
    (h1 : (advance fwd w w1).cur ≤ e.upper) : WalkIn e (advance fwd w w1) := by
  refine ⟨h0, ?_, h1⟩
  show (0 : Rat) ≤ (e.G : Rat) - 1 / 1000000
  have : (1 : Rat) ≤ (e.G : Rat) := by exact_mod_cast (wf.G_pos : (1 : Int) ≤ e.G)
  grind

/-- the first-booked slot a backward walk reports when the slot at `w` finished the task with the walk `w1` -/
def closeWalk (fwd : Bool) (w w1 : Walk) : Walk :=
  { w1 with firstBooked :=
      if !fwd && w1.firstBooked.isNone && decide (w1.done > w.done) then some w1.cur else w1.firstBooked }

variable {e : Env} {t : Nat} {fwd : Bool}

/-- induction along a walk, for an invariant whose step needs neither `Inv` nor `WalkOk`: a successful walk ends with a
    finishing slot entered under the invariant; `closeWalk` is the walk it reports -/
theorem walkLoop_ind {I : St → Walk → Prop}
    (hstep : ∀ σ w, I σ w → (scheduleSlot e σ t w).2.2 = true →
      0 ≤ (advance fwd w (scheduleSlot e σ t w).2.1).cur → (advance fwd w (scheduleSlot e σ t w).2.1).cur ≤ e.upper →
      I (scheduleSlot e σ t w).1 (advance fwd w (scheduleSlot e σ t w).2.1))
    (fuel : Nat) (σ : St) (w : Walk) (h : I σ w) (hok : (walkLoop e t fwd fuel σ w).2.2 = true) :
    ∃ σl wl, I σl wl ∧ (scheduleSlot e σl t wl).2.2 = false ∧
      (walkLoop e t fwd fuel σ w).1 = (scheduleSlot e σl t wl).1 ∧
      (walkLoop e t fwd fuel σ w).2.1 = closeWalk fwd wl (scheduleSlot e σl t wl).2.1 := by
  induction fuel generalizing σ w with
  | zero => exact Bool.noConfusion hok
  | succ f ih =>
    unfold walkLoop at hok ⊢
    simp only [] at hok ⊢
    by_cases hc : (scheduleSlot e σ t w).2.2 = true
    · simp only [hc, Bool.not_true, Bool.false_eq_true, if_false] at hok ⊢
      split at hok
      · exact Bool.noConfusion hok
      · rename_i hb
        simp only [hb, Bool.false_eq_true, if_false]
        simp only [Bool.or_eq_true, decide_eq_true_eq, not_or, Int.not_lt] at hb
        exact ih _ _ (hstep σ w h hc hb.1 hb.2) hok
    · have hc' : (scheduleSlot e σ t w).2.2 = false := by simpa using hc
      simp only [hc', Bool.not_false, if_true]
      exact ⟨σ, w, h, hc', rfl, rfl⟩

/-- **induction along a walk.**  `I σ w vis` with `vis` the slots visited before `w.cur`: if every slot that does not finish
    the task keeps `I` (the next cursor being inside the horizon), a successful walk ends with a finishing slot entered
    under `I`. -/
theorem walkLoop_last {I : St → Walk → List Int → Prop} (wf : WF e) (hlf : (e.taskD t).leaf = true)
    (hstep : ∀ σ w vis, Inv e σ → WalkOk e t w → I σ w vis → (scheduleSlot e σ t w).2.2 = true →
      0 ≤ (advance fwd w (scheduleSlot e σ t w).2.1).cur → (advance fwd w (scheduleSlot e σ t w).2.1).cur ≤ e.upper →
      I (scheduleSlot e σ t w).1 (advance fwd w (scheduleSlot e σ t w).2.1) (w.cur :: vis))
    (fuel : Nat) (σ : St) (w : Walk) (vis : List Int) (hinv : Inv e σ) (hw : WalkOk e t w)
    (h : I σ w vis) (hok : (walkLoop e t fwd fuel σ w).2.2 = true) :
    ∃ σl wl visl, I σl wl visl ∧ Inv e σl ∧ WalkOk e t wl ∧ (scheduleSlot e σl t wl).2.2 = false ∧
      (walkLoop e t fwd fuel σ w).1 = (scheduleSlot e σl t wl).1 ∧
      (walkLoop e t fwd fuel σ w).2.1 = closeWalk fwd wl (scheduleSlot e σl t wl).2.1 := by
  obtain ⟨σl, wl, ⟨visl, hI, hil, hwl⟩, h1, h2, h3⟩ := walkLoop_ind (fwd := fwd)
    (I := fun σ w => ∃ vis, I σ w vis ∧ Inv e σ ∧ WalkOk e t w)
    (fun σ w ⟨vis, hI, hi, hw⟩ hc h0 h1 =>
      ⟨w.cur :: vis, hstep σ w vis hi hw hI hc h0 h1, (scheduleSlot_inv e σ t w wf hi hlf hw).1,
       walkOk_advance e t wf _ _ _ ((scheduleSlot_inv e σ t w wf hi hlf hw).2 hc)⟩)
    fuel σ w ⟨vis, h, hinv, hw⟩ hok
  exact ⟨σl, wl, visl, hI, hil, hwl, h1, h2, h3⟩

end SP
