import Proofs.TeamSame
import Proofs.EarliestFit
import Proofs.TeamLimits
/-!
C07 / C08 for teams: a team takes a slot whenever all its members are working there, none of them is booked and the limits
have room for all of them — along a walk in either direction (`walk_team_no_idle`), and for forward teams in the final ledger:
between the bound and the end, every slot in which all members are working carries the task on all of them, or some member
carries an entry of a task placed earlier, or a limit has no room for the whole team.
-/
namespace SP

/-- a failing team gate names a member that was not available (or not within the task's limits) in a state with the same
    ledger and marks -/
theorem teamGate_fails_member (e : Env) (t : Nat) (i : Int) (σ : St) (sel : List Nat) (h : teamGateOk e t i σ sel = false) :
    ∃ m ∈ sel, ∃ σ' : St, σ'.led = σ.led ∧ σ'.marks = σ.marks ∧
      (available e σ' m i && taskLimitsOk e σ' t i m) = false := by
  induction sel generalizing σ with
  | nil => simp [teamGateOk] at h
  | cons r rs ih =>
    unfold teamGateOk at h
    by_cases h1 : (available e σ r i && taskLimitsOk e σ t i r) = true
    · rw [h1, Bool.true_and] at h
      obtain ⟨m, hm, σ', hl, hmk, hf⟩ := ih (countMember e σ t i r) h
      exact ⟨m, List.mem_cons_of_mem _ hm, σ', by rw [hl, countMember_led], by rw [hmk, countMember_marks], hf⟩
    · exact ⟨r, List.mem_cons_self, σ, rfl, rfl, by simpa using h1⟩

/-- an unlimited member that is working in the slot and not available carries an entry there -/
theorem unavailable_has (e : Env) (σ σ' : St) (m : Nat) (i : Int) (hs : Solid e σ) (hl : σ'.led = σ.led) (hmk : σ'.marks = σ.marks)
    (hi : 0 ≤ i) (hleaf : (e.resD m).leaf = true) (hon : e.onShift m i = true) (hnl : e.leaveMark m i = false)
    (hrl : resLimitIds e m = []) (ha : available e σ' m i = false) : Has m i σ :=
  (unavailable_reason e σ σ' m i hs hl hmk hi hleaf hon hnl ha).resolve_right
    (by rw [hrl]; rintro ⟨_, hm, _⟩; cases hm)

theorem teamU_le {c b : Rat} {w : Walk} (hc : c ≤ b) (ho : w.offset ≤ b) : teamU c w ≤ b := by
  unfold teamU
  split
  · split
    · exact ho
    · exact hc
  · exact hc

theorem availOf_pos {G : Int} {u : Rat} (h : u ≤ (G : Rat) - 1 / 1000000) : 0 < availOf G u :=
  (availSecs_pos_iff G { used := u, usage := [] }).mpr h

theorem bookResources_team_open (e : Env) (σ : St) (t : Nat) (w : Walk) (sel : List Nat)
    (hinv : Inv e σ) (ha : (e.taskD t).hasAlloc = true)
    (hsel : selectedOf e σ t w = sel) (hteam : isTeam e t sel = true) (hnd : sel.Nodup)
    (hclean : ∀ r ∈ sel, usageOf (σ.led.get r w.cur).usage t = none)
    (hg : teamGateOk e t w.cur σ sel = true) (hpos : 0 < availOf e.G (teamU (teamCommon σ w.cur sel) w)) :
    ∀ r ∈ sel, usageOf ((bookResources e σ t w).1.led.get r w.cur).usage t
      = some (availOf e.G (teamU (teamCommon σ w.cur sel) w)) := by
  have hne : sel.isEmpty = false := by
    cases sel with
    | nil => simp [isTeam] at hteam
    | cons _ _ => rfl
  have hgf : teamGateFails e σ t { w with selected := some sel } sel = false := by
    unfold teamGateFails; simp [hteam, hg]
  have hlev : leveled e σ t w.cur sel = levelTeam σ w.cur sel := by unfold leveled; simp [hteam]
  have hrel : TeamRel e σ σ (levelTeam σ w.cur sel) w.cur (teamCommon σ w.cur sel) t sel :=
    ⟨levelTeam_cnt σ w.cur sel, rfl, rfl, fun r _ => by rw [levelTeam_marks], fun r hr => levelTeam_used σ w.cur sel r hr,
      fun r hr => by rw [levelTeam_usage]; exact hclean r hr,
      fun r hr => ⟨(hinv.slot r w.cur).used_nonneg, le_teamCommon σ w.cur sel r hr⟩⟩
  have hent := (bookAll_team_all e σ t { w with selected := some sel } _ hpos sel
    { σ := levelTeam σ w.cur sel, last := w.last } σ hnd hrel hg).1
  intro r hr
  unfold bookResources
  simp only [ha, Bool.not_true, Bool.false_eq_true, if_false, hsel, hne, hgf, hlev]
  unfold bookAll
  split
  · rw [markStart_led]; exact hent r hr
  · exact hent r hr

/-- a team none of whose members got the slot: some member was not working there, or carried an entry, or a limit of a
    member or of the task has no room for the whole team -/
theorem bookResources_team_nobody_reason (e : Env) (wf : WF e) (σ : St) (t : Nat) (w : Walk) (sel : List Nat)
    (hinv : Inv e σ) (hs : Solid e σ) (hin : WalkIn e w) (ha : (e.taskD t).hasAlloc = true)
    (hsel : selectedOf e σ t w = sel) (hteam : isTeam e t sel = true) (hnd : sel.Nodup)
    (hclean : ∀ r ∈ sel, usageOf (σ.led.get r w.cur).usage t = none)
    (hleaf : ∀ m ∈ sel, (e.resD m).leaf = true)
    (hnone : ∀ r ∈ sel, usageOf ((bookResources e σ t w).1.led.get r w.cur).usage t = none) :
    (∃ m ∈ sel, e.onShift m w.cur = false ∨ e.leaveMark m w.cur = true ∨ Has m w.cur σ) ∨ TeamTight e σ t sel w.cur := by
  by_cases hg : teamGateOk e t w.cur σ sel = true
  · -- the gate was open and a reservation never fills a slot: then everybody is booked, which contradicts `hnone`
    exfalso
    have hne : sel ≠ [] := by
      intro h; rw [h] at hteam; simp [isTeam] at hteam
    obtain ⟨x, hx⟩ := List.exists_mem_of_ne_nil sel hne
    have hroom := teamCommon_room e wf σ w.cur sel (teamGateOk_avail e t w.cur σ sel hg)
    have hpos := availOf_pos (teamU_le hroom hin.off_room)
    have h1 := hnone x hx
    rw [bookResources_team_open e σ t w sel hinv ha hsel hteam hnd hclean hg hpos x hx] at h1
    cases h1
  · have hg' : teamGateOk e t w.cur σ sel = false := by simpa using hg
    obtain ⟨m, hm, σ', hl, hmk, hcnt, hf⟩ := teamGate_fails_member_cnt e wf t w.cur σ sel hg'
    have tight_of : ∀ lid ro, limitOk e σ' lid w.cur ro = false → Tight e lid w.cur ro ((sel.length : Int) - 1) σ := by
      intro lid ro hno
      rw [limitOk_false_iff] at hno
      refine ⟨hno.1, hno.2.1, ?_⟩
      have := (hcnt lid (e.period (e.limitD lid) w.cur)).2
      omega
    by_cases hav : available e σ' m w.cur = true
    · -- the task's limits refuse the member
      right
      rw [hav, Bool.true_and] at hf
      unfold taskLimitsOk at hf
      obtain ⟨lid, hlid, hno⟩ := List.all_eq_false.mp hf
      exact ⟨m, hm, Or.inr ⟨lid, hlid, tight_of lid (some m) (by simpa using hno)⟩⟩
    · have hav' : available e σ' m w.cur = false := by simpa using hav
      by_cases hon : e.onShift m w.cur = true
      · by_cases hnl : e.leaveMark m w.cur = false
        · rcases unavailable_reason e σ σ' m w.cur hs hl hmk hin.cur_nonneg (hleaf m hm) hon hnl hav' with h1 | ⟨lid, hlid, hno⟩
          · exact Or.inl ⟨m, hm, Or.inr (Or.inr h1)⟩
          · exact Or.inr ⟨m, hm, Or.inl ⟨lid, hlid, tight_of lid none hno⟩⟩
        · exact Or.inl ⟨m, hm, Or.inr (Or.inl (by simpa using hnl))⟩
      · exact Or.inl ⟨m, hm, Or.inl (by simpa using hon)⟩

def AllWorking (e : Env) (sel : List Nat) (i : Int) : Prop := ∀ m ∈ sel, e.onShift m i = true ∧ e.leaveMark m i = false

theorem scheduleSlot_team_slot (e : Env) (wf : WF e) (σ : St) (t : Nat) (sel : List Nat) (fwd : Bool) (w : Walk)
    (vis : List Int) (hinv : Inv e σ) (hs : Solid e σ) (hin : WalkIn e w)
    (ha : (e.taskD t).hasAlloc = true) (hm : (e.taskD t).milestone = false)
    (hsel : selectedOf e σ t w = sel) (hteam : isTeam e t sel = true) (hnd : sel.Nodup) (hpos : 0 < (e.taskD t).effort)
    (hts : TS σ t sel fwd w vis) (hleaf : ∀ m ∈ sel, (e.resD m).leaf = true) (hall : AllWorking e sel w.cur) :
    (∀ m ∈ sel, usageOf ((scheduleSlot e σ t w).1.led.get m w.cur).usage t ≠ none) ∨
    (∃ m ∈ sel, Has m w.cur σ) ∨ TeamTight e σ t sel w.cur := by
  have hcur_notin : w.cur ∉ vis := cur_not_visited hts.before
  have hclean : ∀ r ∈ sel, usageOf (σ.led.get r w.cur).usage t = none := fun r hr => hts.only r hr _ hcur_notin
  obtain ⟨hselw, hcurw, hcase⟩ := bookResources_team_last e wf σ t w sel hinv ha hsel hteam hnd hclean
  rcases hcase with hnone | ⟨a, -, hent, hlast⟩
  · right
    rcases bookResources_team_nobody_reason e wf σ t w sel hinv hs hin ha hsel hteam hnd hclean hleaf hnone with
      ⟨m, hm', hr⟩ | htight
    · left
      rcases hr with hr | hr | hr
      · rw [(hall m hm').1] at hr; exact Bool.noConfusion hr
      · rw [(hall m hm').2] at hr; exact Bool.noConfusion hr
      · exact ⟨m, hm', hr⟩
    · exact Or.inr htight
  · left
    intro m hm'
    rcases scheduleSlot_effort_cases e σ t w hm hpos with ⟨-, heq⟩ | ⟨-, -, hled⟩
    · rw [heq, hent m hm']; simp
    · have hne : sel ≠ [] := by
        intro h; rw [h] at hteam; simp [isTeam] at hteam
      obtain ⟨rl, hrl, hrlmem⟩ := getLast?_mem_of_ne_nil sel hne
      have hle := needSecs_le_booked e (bookResources e σ t w).1 t (bookResources e σ t w).2 w.done rl a
        (by rw [hcurw]; exact hent rl hrlmem)
      have hft := finishTask_team e (bookResources e σ t w).1 t (bookResources e σ t w).2 w.done (σ.tst t).forward sel rl a
        (by rw [hlast, hrl]) hselw hrlmem hnd (by rw [hcurw]; exact hent) hle
      rw [hcurw] at hft
      rw [hled, hft m hm']; simp

/-- **along the walk of a team, in either direction**: a visited slot in which all members are working ends up carrying the
    task on every member, or some member carried an entry there when the slot was visited and still does, or a limit has no
    room for the whole team -/
theorem walk_team_no_idle (e : Env) (wf : WF e) (t : Nat) (sel : List Nat) (fwd : Bool) (fuel : Nat) (σ : St) (w : Walk)
    (vis : List Int) (hinv : Inv e σ) (hs : Solid e σ) (hlf : (e.taskD t).leaf = true) (hw : WalkOk e t w) (hin : WalkIn e w)
    (ha : (e.taskD t).hasAlloc = true) (hm : (e.taskD t).milestone = false)
    (hsel : selectedOf e σ t w = sel) (hteam : isTeam e t sel = true) (hnd : sel.Nodup) (hpos : 0 < (e.taskD t).effort)
    (hts : TS σ t sel fwd w vis)
    (hleaf : ∀ m ∈ sel, (e.resD m).leaf = true) :
    ∀ p ∈ visits e t fwd fuel σ w, AllWorking e sel p.2.cur →
      (∀ m ∈ sel, usageOf ((walkLoop e t fwd fuel σ w).1.led.get m p.2.cur).usage t ≠ none) ∨
      (∃ m ∈ sel, Has m p.2.cur p.1 ∧ Has m p.2.cur (walkLoop e t fwd fuel σ w).1) ∨
      TeamTight e (walkLoop e t fwd fuel σ w).1 t sel p.2.cur := by
  intro p hp hall
  obtain ⟨⟨hs', hin', vis', hts', hsel'⟩, hi', hw', f', hf'⟩ := visits_reach_inv
    (P := fun σ w => Solid e σ ∧ WalkIn e w ∧ ∃ vis, TS σ t sel fwd w vis ∧ selectedOf e σ t w = sel) wf hlf
    (fun σ w hi hw ⟨hs, hin, vis, hts, hsel⟩ hc h0 h1 => by
      obtain ⟨hts', hsel'⟩ := (scheduleSlot_ts e wf σ t sel fwd w vis hi ha hm hsel hteam hnd hpos hts).1 hc
      exact ⟨closed_scheduleSlot (solid_closed e) wf σ t w hi hlf trivial hw hin hs, WalkIn.advance wf h0 h1,
        w.cur :: vis, hts', selectedOf_some e _ t _ sel hsel'⟩)
    fuel σ w hinv hw ⟨hs, hin, vis, hts, hsel⟩ p hp
  rw [hf']
  rcases scheduleSlot_team_slot e wf p.1 t sel fwd p.2 vis' hi' hs' hin' ha hm hsel' hteam hnd hpos hts' hleaf hall with
    h1 | ⟨m, hm', h1⟩ | h1
  · left
    intro m hm'
    rw [walk_head]
    exact h1 m hm'
  · right; left
    exact ⟨m, hm', h1, closed_walkLoop (has_closed e m p.2.cur) wf t fwd _ p.1 p.2 hi' hlf trivial hw' hin' h1⟩
  · right; right
    exact teamTight_closed_step (fun lid ro hr =>
      closed_walkLoop (tight_closed e lid p.2.cur ro _) wf t fwd _ p.1 p.2 hi' hlf trivial hw' hin' hr) h1

/-- **along the forward walk of a team**: a visited slot in which all members are working ends up carrying the task on every
    member, or some member carries there a task that was in the ledger before the walk began, or a limit of a member or of the
    task has no room for the whole team -/
theorem walkLoop_team_fit (e : Env) (wf : WF e) (t : Nat) (sel placed : List Nat) (σ0 : St) (fuel : Nat) (σ : St) (w : Walk)
    (vis : List Int) (hinv : Inv e σ) (hs : Solid e σ) (hlf : (e.taskD t).leaf = true) (hw : WalkOk e t w) (hin : WalkIn e w)
    (ha : (e.taskD t).hasAlloc = true) (hm : (e.taskD t).milestone = false)
    (hsel : selectedOf e σ t w = sel) (hteam : isTeam e t sel = true) (hnd : sel.Nodup) (hpos : 0 < (e.taskD t).effort)
    (hts : TS σ t sel true w vis)
    (hleaf : ∀ m ∈ sel, (e.resD m).leaf = true)
    (hown : Owned placed σ0) (hnp : t ∉ placed) (hahead : ∀ r i, w.cur ≤ i → σ.led.get r i = σ0.led.get r i) :
    ∀ p ∈ walkVisits e t fuel σ w, AllWorking e sel p.2.cur →
      (∀ m ∈ sel, usageOf ((walkLoop e t true fuel σ w).1.led.get m p.2.cur).usage t ≠ none) ∨
      (∃ m ∈ sel, ∃ t' ∈ placed, usageOf ((walkLoop e t true fuel σ w).1.led.get m p.2.cur).usage t' ≠ none) ∨
      TeamTight e (walkLoop e t true fuel σ w).1 t sel p.2.cur := by
  intro p hp hall
  refine (walk_team_no_idle e wf t sel true fuel σ w vis hinv hs hlf hw hin ha hm hsel hteam hnd hpos hts hleaf p
    (by rw [← walkVisits_eq]; exact hp) hall).imp id (Or.imp ?_ id)
  -- the entry the member carried at the visit was there before the walk began, and belongs to a task placed earlier
  rintro ⟨m, hm', h1, -⟩
  have hle : w.cur ≤ p.2.cur := by
    obtain ⟨k, hk, hkp⟩ := List.getElem_of_mem hp
    rw [← hkp, walkVisits_consecutive e t fuel σ w k hk]
    omega
  unfold Has at h1
  rw [walkVisits_ahead e t fuel σ w m p hp p.2.cur (Int.le_refl _)] at h1
  obtain ⟨x, hx⟩ := List.exists_mem_of_ne_nil _ h1
  have hxp := hown m p.2.cur x (by rw [← hahead m p.2.cur hle]; exact hx)
  refine ⟨m, hm', x.1, hxp, ?_⟩
  rw [walkLoop_same e t true fuel σ w x.1 (fun heq => hnp (heq ▸ hxp)) m p.2.cur]
  exact usageOf_of_mem hx

/-- a forward team task: several pairwise different leaf resources, no start of its own (limits allowed) -/
structure TeamU (e : Env) (t : Nat) (sel : List Nat) : Prop where
  el : TeamAny e t sel
  nostart : (e.taskD t).startProvided = false
  rleaf : ∀ m ∈ sel, (e.resD m).leaf = true

/-- how a team fits: between the bound slot and any slot it is booked in, a slot in which all members are working carries the
    task on every member, or some member carries one of `pre`, or a limit has no room for the whole team -/
def FitAtT (e : Env) (σ : St) (t : Nat) (sel pre : List Nat) : Prop :=
  ∀ L m0, m0 ∈ sel → usageOf (σ.led.get m0 L).usage t ≠ none →
    ∀ i, boundSlot e σ t ≤ i → i ≤ L → AllWorking e sel i →
      (∀ m ∈ sel, usageOf (σ.led.get m i).usage t ≠ none) ∨
      (∃ m ∈ sel, ∃ t' ∈ pre, usageOf (σ.led.get m i).usage t' ≠ none) ∨ TeamTight e σ t sel i

theorem TeamTight.of_cnt {e : Env} {σ σ' : St} {t : Nat} {sel : List Nat} {i : Int} (hc : σ'.cnt = σ.cnt)
    (h : TeamTight e σ t sel i) : TeamTight e σ' t sel i :=
  teamTight_closed_step (fun _ _ hr => by unfold Tight at *; rw [hc]; exact hr) h

theorem scheduleTask_team_fit (e : Env) (wf : WF e) (σ : St) (t : Nat) (sel placed : List Nat)
    (hinv : Inv e σ) (hs : Solid e σ) (hel : TeamU e t sel) (hf : (σ.tst t).forward = true)
    (hnd : (σ.tst t).done = false) (hclean : ∀ r i, usageOf (σ.led.get r i).usage t = none)
    (hown : Owned placed σ) (hnp : t ∉ placed) (hok : (scheduleTask e σ t).2 = true) :
    ∀ L m0, m0 ∈ sel → usageOf ((scheduleTask e σ t).1.led.get m0 L).usage t ≠ none →
      ∀ i, (initCursor e σ t).1 ≤ i → i ≤ L → AllWorking e sel i →
        (∀ m ∈ sel, usageOf ((scheduleTask e σ t).1.led.get m i).usage t ≠ none) ∨
        (∃ m ∈ sel, ∃ t' ∈ placed, usageOf ((scheduleTask e σ t).1.led.get m i).usage t' ≠ none) ∨
        TeamTight e (scheduleTask e σ t).1 t sel i := by
  obtain ⟨hin, hw, hfin, hled, hcnt⟩ := scheduleTask_forward_ok e wf σ t hel.el.alloc hf hnd hok
  intro L m0 hm0 hL i hci hiL hall
  rw [hled] at hL ⊢
  have hne : (walkLoop e t true (e.size.toNat + 3) (σ.setT t (σ.tst t))
      { cur := (initCursor e σ t).1, offset := (initCursor e σ t).2 }).1.led.get m0 L ≠ (σ.setT t (σ.tst t)).led.get m0 L :=
    fun h => hL (by rw [h]; exact hclean m0 L)
  obtain ⟨p, hp, hcur⟩ := walkVisits_interval e t _ _ _ m0 L i hne hci hiL
  have hts : TS (σ.setT t (σ.tst t)) t sel true { cur := (initCursor e σ t).1, offset := (initCursor e σ t).2 } [] :=
    ⟨fun r _ i _ => hclean r i, fun i hi => absurd hi List.not_mem_nil,
      fun r _ r' _ i => by
        show usageOf (σ.led.get r i).usage t = usageOf (σ.led.get r' i).usage t
        rw [hclean r i, hclean r' i]⟩
  have := walkLoop_team_fit e wf t sel placed (σ.setT t (σ.tst t)) _ _ _ [] (inv_setT _ _ hinv)
    ((solid_closed e).setT σ t _ hs) hel.el.leaf hw hin hel.el.alloc hel.el.nomile
    (by unfold selectedOf; exact hel.el.pick _ _) hel.el.isTeam hel.el.nodup hel.el.effort hts hel.rleaf hown hnp
    (fun _ _ _ => rfl) p hp (by rw [hcur]; exact hall)
  rw [hcur] at this
  exact this.imp id (Or.imp id (TeamTight.of_cnt hcnt))

def DoneFitT (e : Env) (σ : St) (placed : List Nat) : Prop :=
  ∀ t sel, TeamU e t sel → (σ.tst t).done = true → (σ.tst t).forward = true →
    ∃ post pre, placed = post ++ t :: pre ∧ FitAtT e σ t sel pre

structure FitInvT (e : Env) (σ : St) (tasks placed : List Nat) : Prop where
  base : FitInv e σ tasks placed
  okT : DoneFitT e σ placed

theorem fitInvT_step (e : Env) (wf : WF e) (σ : St) (tasks placed : List Nat) (t0 : Nat) (h : FitInvT e σ tasks placed)
    (hfind : tasks.find? (fun t => ready e σ t) = some t0) :
    FitInvT e (updateContainers e (scheduleTask e σ t0).1) (tasks.erase t0) (t0 :: placed) := by
  refine ⟨fitInv_step e wf σ tasks placed t0 h.base hfind, fun t sel hel hd hfw => ?_⟩
  have hmem : t0 ∈ tasks := List.mem_of_find?_eq_some hfind
  have hready : ready e σ t0 = true := by simpa using List.find?_some hfind
  have hlf0 := h.base.leaf t0 hmem
  obtain ⟨hnp0, hus0, hnd0, hclean0, hstart0⟩ := h.base.pending t0 hmem
  by_cases heq : t = t0
  · subst heq
    rw [updateContainers_leaf e _ t hel.el.leaf] at hd hfw
    rw [scheduleTask_self_forward] at hfw
    refine ⟨[], placed, rfl, fun L m0 hm0 hL i hbi hiL hall => ?_⟩
    rw [(boundSlot_round e σ t t hus0 (ready_forward_deps e σ t hfw hready)).1,
      ← initCursor_boundSlot e σ t hfw hel.nostart (hstart0 ⟨hel.el.leaf, hel.el.effort, hel.el.nomile⟩)] at hbi
    rw [updateContainers_led] at hL ⊢
    exact (scheduleTask_team_fit e wf σ t sel placed h.base.inv h.base.solid hel hfw hnd0 hclean0 h.base.owned hnp0
      (scheduleTask_done e σ t hnd0 hd) L m0 hm0 hL i hbi hiL hall).imp id (Or.imp id
        (teamTight_closed_step (fun lid ro hr => closed_updateContainers (tight_closed e lid i ro _) _ hr)))
  · rw [round_fixed e σ t0 t heq (Or.inl hel.el.leaf)] at hd hfw
    obtain ⟨post, pre, hsplit, hfit⟩ := h.okT t sel hel hd hfw
    refine ⟨t0 :: post, pre, by rw [hsplit]; rfl, fun L m0 hm0 hL i hbi hiL hall => ?_⟩
    rw [(boundSlot_round e σ t0 t hus0 (h.base.deps t hel.el.leaf hd hfw)).1] at hbi
    rw [updateContainers_led, scheduleTask_same e σ t0 t (Ne.symm heq) m0 L] at hL
    rw [updateContainers_led]
    rcases hfit L m0 hm0 hL i hbi hiL hall with h1 | ⟨m, hm, t', ht', h1⟩ | h1
    · exact Or.inl (fun m hm => by rw [scheduleTask_same e σ t0 t (Ne.symm heq) m i]; exact h1 m hm)
    · have hne : t0 ≠ t' := fun h5 =>
        hnp0 (by rw [hsplit, h5]; exact List.mem_append_right _ (List.mem_cons_of_mem _ ht'))
      exact Or.inr (Or.inl ⟨m, hm, t', ht', by rw [scheduleTask_same e σ t0 t' hne m i]; exact h1⟩)
    · exact Or.inr (Or.inr (teamTight_closed_step
        (fun lid ro => closed_round (tight_closed e lid i ro _) wf σ t0 h.base.inv hlf0 trivial) h1))

theorem DoneFitT.finish {e : Env} {order : List Nat} (tr : Tree e)
    (h : DoneFitT e (scheduleScenario e (prepare e (initState e))) order) : DoneFitT e (runScenario e) order := by
  intro t sel hel hdone hfw
  rw [runScenario_leafT e t hel.el.leaf] at hdone hfw
  obtain ⟨post, pre, hsplit, hfit⟩ := h t sel hel hdone hfw
  refine ⟨post, pre, hsplit, fun L m0 hm0 hL i hbi hiL hall => ?_⟩
  rw [boundSlot_finish e tr] at hbi
  unfold runScenario at hL ⊢
  rw [finishScenario_led] at hL ⊢
  exact (hfit L m0 hm0 hL i hbi hiL hall).imp id (Or.imp id
    (teamTight_closed_step (fun lid ro hr => closed_finishScenario (tight_closed e lid i ro _) _ hr)))

end SP
