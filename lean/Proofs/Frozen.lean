import Proofs.EffortGlobal
/-!
C09, the frame half: once a leaf task is completed, no task scheduled afterwards changes its attributes or any of its
ledger entries.
-/
namespace SP

theorem scheduleTask_done_noop (e : Env) (σ : St) (t : Nat) (h : (σ.tst t).done = true) : scheduleTask e σ t = (σ, true) := by
  unfold scheduleTask; simp [h]

theorem round_frozen (e : Env) (σ : St) (t0 t : Nat) (hlf : (e.taskD t).leaf = true) (hd : (σ.tst t).done = true) :
    (updateContainers e (scheduleTask e σ t0).1).tst t = σ.tst t ∧
    SameEntries σ (updateContainers e (scheduleTask e σ t0).1) t := by
  by_cases heq : t0 = t
  · subst heq
    rw [scheduleTask_done_noop e σ t0 hd]
    exact ⟨updateContainers_leaf e σ t0 hlf, SameEntries.of_led (updateContainers_led e σ)⟩
  · exact round_other e σ t0 t hlf (Ne.symm heq)

/-- **frozen**: a leaf task that is completed at some point of the pick loop has, at the end of the loop, exactly the
    attributes (dates, flags) and exactly the ledger entries it had at that point — whatever is scheduled afterwards -/
theorem pickLoop_frozen (e : Env) (fuel : Nat) (tasks failed : List Nat) (σ : St) (t : Nat)
    (hlf : (e.taskD t).leaf = true) (hd : (σ.tst t).done = true) :
    (pickLoop e fuel tasks failed σ).1.tst t = σ.tst t ∧ SameEntries σ (pickLoop e fuel tasks failed σ).1 t := by
  obtain ⟨-, -, h⟩ := pickLoop_induct (I := fun _ _ σ' => σ'.tst t = σ.tst t ∧ SameEntries σ σ' t)
    (fun _ _ σ' t0 h _ => by
      obtain ⟨h1, h2⟩ := round_frozen e σ' t0 t hlf (by rw [h.1]; exact hd)
      exact ⟨h1.trans h.1, h.2.trans h2⟩)
    (fun _ _ _ _ h => h) fuel tasks failed [] σ ⟨rfl, SameEntries.refl σ t⟩
  exact h

end SP
