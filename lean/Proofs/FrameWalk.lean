import Proofs.DepStart
import Proofs.Round
import Proofs.WalkInd
/-!
C06 along the forward walk of a single-resource task: the first slot the task books is the slot its start lies in,
the finishing slot is the slot its end lies in, and every booking lies between the two.

Before that, what both directions share: the booking attempt and the finishing slot of a task with one selected resource
(`book_facts`, `scheduleSlot_finish_single`).
-/
namespace SP

/-- `finalT` keeps a start that is set; a forward task keeps its end, a backward effort task ends with the slot it
    booked first -/
theorem finalT_dates (e : Env) (t : Nat) (fwd : Bool) (c : Int) (ts1 : TSt) (w1 : Walk) (v : Int)
    (hs : ts1.start = some v) (hpos : 0 < (e.taskD t).effort) :
    (finalT e t fwd c ts1 w1).start = some v ∧
    (finalT e t fwd c ts1 w1).stop = if fwd then ts1.stop else some (e.time (w1.firstBooked.getD c + 1)) := by
  have hdec : decide ((e.taskD t).effort > 0) = true := by simpa using hpos
  unfold finalT
  cases fwd
  · simp only [Bool.false_eq_true, if_false, hs, Option.isNone_some, hdec, Bool.true_or, if_true, and_self]
  · simp only [if_true, hs, Option.isNone_some, Bool.false_eq_true, if_false, and_self]

theorem bookResource_entry (e : Env) (σ : St) (t : Nat) (w : Walk) (r : Nat)
    (hnone : usageOf (σ.led.get r w.cur).usage t = none) :
    usageOf ((bookResource e σ t w r).1.led.get r w.cur).usage t = none ∨
    0 < taskSecs ((bookResource e σ t w r).1.led.get r w.cur) t := by
  rw [bookResource_eq]
  have hn' : usageOf ((reserveStep σ w r).led.get r w.cur).usage t = none := by rw [reserveStep_get]; exact hnone
  split
  · rename_i hc
    right
    unfold taskSecs
    rw [bookSlot_entry, usageOf_append_none _ _ _ hn']
    simp only [Option.getD_some]
    simp only [Bool.and_eq_true] at hc
    have hav := hc.1
    unfold available at hav
    simp only [Bool.and_eq_true, decide_eq_true_eq] at hav
    exact hav.1.1.2
  · left; exact hn'

theorem bookResources_single_led (e : Env) (σ : St) (t : Nat) (w : Walk) (r : Nat)
    (ha : (e.taskD t).hasAlloc = true) (hsel : selectedOf e σ t w = [r]) :
    (bookResources e σ t w).1.led = (bookResource e σ t { w with selected := some [r] } r).1.led := by
  rw [bookResources_single e σ t w r ha hsel]
  simp only []
  split
  · exact markStart_led _ _ _ _
  · rfl

theorem bookResources_single_entry (e : Env) (σ : St) (t : Nat) (w : Walk) (r : Nat)
    (ha : (e.taskD t).hasAlloc = true) (hsel : selectedOf e σ t w = [r])
    (hnone : usageOf (σ.led.get r w.cur).usage t = none) :
    usageOf ((bookResources e σ t w).1.led.get r w.cur).usage t = none ∨
    0 < taskSecs ((bookResources e σ t w).1.led.get r w.cur) t := by
  rw [bookResources_single_led e σ t w r ha hsel]
  exact bookResource_entry e σ t { w with selected := some [r] } r hnone

theorem bookResources_single_gain (e : Env) (wf : WF e) (σ : St) (t r : Nat) (w : Walk)
    (ha : (e.taskD t).hasAlloc = true) (hsel : selectedOf e σ t w = [r])
    (hnone : usageOf (σ.led.get r w.cur).usage t = none) :
    usageOf ((bookResources e σ t w).1.led.get r w.cur).usage t = none ∧ (bookResources e σ t w).2.done = w.done ∨
    usageOf ((bookResources e σ t w).1.led.get r w.cur).usage t ≠ none ∧ (bookResources e σ t w).2.done > w.done := by
  obtain ⟨hdone, -⟩ := bookResources_single_acc e wf σ t w r ha hsel hnone
  rcases bookResources_single_entry e σ t w r ha hsel hnone with hn | hp
  · left
    refine ⟨hn, ?_⟩
    have : taskSecs ((bookResources e σ t w).1.led.get r w.cur) t = 0 := by unfold taskSecs; rw [hn]; rfl
    rw [hdone, this, Rat.div_def, Rat.zero_mul, Rat.zero_mul, Rat.add_zero]
  · right
    refine ⟨fun hc => ?_, ?_⟩
    · unfold taskSecs at hp; rw [hc] at hp; simp at hp
    · have : 0 < taskSecs ((bookResources e σ t w).1.led.get r w.cur) t / 3600 * (e.resD r).eff :=
        Rat.mul_pos (by
          have h36 : (0 : Rat) < 3600 := by decide +kernel
          rw [Rat.div_def]; exact Rat.mul_pos hp (Rat.inv_pos.mpr h36)) (wf.eff_pos r)
      have hlt := (Rat.add_lt_add_left (c := w.done)).mpr this
      rw [Rat.add_zero, ← hdone] at hlt
      exact hlt

theorem book_facts (e : Env) (wf : WF e) (σ : St) (t r : Nat) (fwd : Bool) (w : Walk) (vis : List Int)
    (ha : (e.taskD t).hasAlloc = true) (hsel : selectedOf e σ t w = [r]) (hacc : Acc e σ t r fwd w vis) :
    (∀ i ∈ vis, (bookResources e σ t w).1.led.get r i = σ.led.get r i) ∧
    (usageOf ((bookResources e σ t w).1.led.get r w.cur).usage t = none ∧ (bookResources e σ t w).2.done = w.done ∨
     usageOf ((bookResources e σ t w).1.led.get r w.cur).usage t ≠ none ∧ (bookResources e σ t w).2.done > w.done) :=
  ⟨fun i hi => (bookResources_single_acc e wf σ t w r ha hsel (hacc.only _ hacc.cur_notin)).2.1 r i
      (fun hh => hacc.cur_notin (hh.2 ▸ hi)),
   bookResources_single_gain e wf σ t r w ha hsel (hacc.only _ hacc.cur_notin)⟩

theorem finishTask_date (e : Env) (σ : St) (t : Nat) (w : Walk) (before : Rat) (r : Nat) (hlast : w.last = some r) :
    (finishTask e σ t w before true).2 =
      e.time w.cur + roundHalfEven ((match usageOf (σ.led.get r w.cur).usage t with
        | some b => (σ.led.get r w.cur).used - b
        | none => 0) + needSecs e σ t w before r) := by
  unfold finishTask
  simp only [hlast, if_true]
  rfl

theorem finishTask_date_some (e : Env) (σ : St) (t : Nat) (w : Walk) (before : Rat) (r : Nat) (a : Rat)
    (hlast : w.last = some r) (hu : usageOf (σ.led.get r w.cur).usage t = some a) :
    (finishTask e σ t w before true).2 =
      e.time w.cur + roundHalfEven ((σ.led.get r w.cur).used - a + needSecs e σ t w before r) := by
  rw [finishTask_date e σ t w before r hlast, hu]

theorem finishTask_date_back (e : Env) (σ : St) (t : Nat) (w : Walk) (before : Rat) (r : Nat) (a : Rat)
    (hlast : w.last = some r) (hu : usageOf (σ.led.get r w.cur).usage t = some a) :
    (finishTask e σ t w before false).2 =
      e.time w.cur + e.G - roundHalfEven ((σ.led.get r w.cur).used - a + needSecs e σ t w before r) := by
  unfold finishTask
  simp only [hlast, hu, Bool.false_eq_true, if_false]

/-- the seconds `x` from which the date of a finishing task is rounded: what the slot held before the task's entry `a`,
    and the `need ≤ a` seconds the task keeps -/
theorem finish_secs_bounds (a sum used G need : Rat) (h1 : a ≤ sum) (h2 : sum ≤ used) (h3 : used ≤ G)
    (hn0 : 0 < need) (hn1 : need ≤ a) :
    0 ≤ used - a + need ∧ used - a + need ≤ G ∧ ∀ o, o ≤ used - a → o ≤ used - a + need := by
  grind

/-- the date of `finishTask` when the entry `a` of the task in the finishing slot covers the missing effort: a number of
    seconds `X` of the slot, counted from its beginning (forward) or back from its end, that is not less than what the slot
    held before the task's own seconds -/
theorem finishTask_date_in (e : Env) (wf : WF e) (σ : St) (t : Nat) (w : Walk) (before : Rat) (r : Nat) (a : Rat)
    (hinv : Inv e σ) (hlast : w.last = some r) (hu : usageOf (σ.led.get r w.cur).usage t = some a)
    (hlt : before < (e.taskD t).effort) (hge : (e.taskD t).effort ≤ before + a / 3600 * (e.resD r).eff) :
    ∃ X : Int, 0 ≤ X ∧ X ≤ e.G ∧ (∀ o : Rat, o ≤ (σ.led.get r w.cur).used - a → o.floor ≤ X) ∧
      (finishTask e σ t w before true).2 = e.time w.cur + X ∧
      (finishTask e σ t w before false).2 = e.time w.cur + e.G - X := by
  have hneed := needSecs_eq e σ t w before r a (wf.eff_pos r) hlt hge (entry_le_G e σ hinv r w.cur t a hu) hu
  have fe := finish_exact (e.taskD t).effort before a (e.resD r).eff (wf.eff_pos r) hlt hge
  have hs := hinv.slot r w.cur
  obtain ⟨hx0, hxG, hxo⟩ := finish_secs_bounds a _ _ _ _ (mem_le_usageSum _ hs.entries_nonneg (t, a) (usageOf_mem hu))
    hs.sum_le hs.used_le fe.1 fe.2.1
  refine ⟨roundHalfEven ((σ.led.get r w.cur).used - a + ((e.taskD t).effort - before) / ((e.resD r).eff / 3600)),
    roundHalfEven_nonneg _ hx0, roundHalfEven_mono_int _ e.G hxG,
    fun o ho => Int.le_trans (Rat.floor_monotone (hxo o ho)) (roundHalfEven_bounds _).1, ?_, ?_⟩
  · rw [finishTask_date_some e σ t w before r a hlast hu, hneed]
  · rw [finishTask_date_back e σ t w before r a hlast hu, hneed]

/-- **the finishing slot** of a task with the single selected resource `r`: the booking attempt gave the task an entry
    there, `finishTask` leaves an entry of the task in the slots of `r` that had one, and the date the task receives lies
    `X` seconds inside the slot, not before what the slot held ahead of the task's own seconds -/
theorem scheduleSlot_finish_single (e : Env) (wf : WF e) (σ : St) (t r : Nat) (w : Walk)
    (hinv : Inv e σ) (hlf : (e.taskD t).leaf = true) (hw : WalkOk e t w)
    (ha : (e.taskD t).hasAlloc = true) (hm : (e.taskD t).milestone = false)
    (hsel : selectedOf e σ t w = [r]) (hlt : w.done < (e.taskD t).effort) (hpos : 0 < (e.taskD t).effort)
    (hnone : usageOf (σ.led.get r w.cur).usage t = none) (hb : t < σ.ts.size)
    (hc : (scheduleSlot e σ t w).2.2 = false) :
    (scheduleSlot e σ t w).2.1 = (bookResources e σ t w).2 ∧ w.done < (bookResources e σ t w).2.done ∧
    usageOf ((bookResources e σ t w).1.led.get r w.cur).usage t ≠ none ∧
    (∀ i, usageOf ((scheduleSlot e σ t w).1.led.get r i).usage t = none ↔
      usageOf ((bookResources e σ t w).1.led.get r i).usage t = none) ∧
    ∃ X : Int, 0 ≤ X ∧ X ≤ e.G ∧
      (∀ o : Rat, o ≤ ((bookResources e σ t w).1.led.get r w.cur).used -
        taskSecs ((bookResources e σ t w).1.led.get r w.cur) t → o.floor ≤ X) ∧
      ((σ.tst t).forward = true →
        ((scheduleSlot e σ t w).1.tst t).start = ((bookResources e σ t w).1.tst t).start ∧
        ((scheduleSlot e σ t w).1.tst t).stop = some (e.time w.cur + X)) ∧
      ((σ.tst t).forward = false → ((scheduleSlot e σ t w).1.tst t).start = some (e.time w.cur + e.G - X)) := by
  obtain ⟨hfin, hwalk, hled, htst⟩ := scheduleSlot_effort_false e σ t w hm hpos hb hc
  obtain ⟨hdone, -, hselw, hcurw, -, hlastw⟩ := bookResources_single_acc e wf σ t w r ha hsel hnone
  have hbi := bookResources_inv e σ t w wf hinv hlf hw
  -- the task booked in this slot: it was short of its effort before
  rcases bookResources_single_gain e wf σ t r w ha hsel hnone with ⟨-, hd⟩ | ⟨hne, hgt⟩
  · rw [hd] at hfin; exact absurd hfin (Rat.not_le.mpr hlt)
  obtain ⟨a, hu⟩ := Option.ne_none_iff_exists'.mp hne
  have hta : taskSecs ((bookResources e σ t w).1.led.get r w.cur) t = a := by unfold taskSecs; rw [hu]; rfl
  rw [hta] at hdone ⊢
  have hge : (e.taskD t).effort ≤ w.done + a / 3600 * (e.resD r).eff := by
    rw [← hdone]; exact hfin
  obtain ⟨hkeep, hfr2⟩ := finishTask_secs e wf (bookResources e σ t w).1 t (bookResources e σ t w).2 w.done
    (σ.tst t).forward r _ (hlastw hgt) hselw (by rw [hcurw]; exact hu) (entry_le_G e _ hbi r w.cur t _ hu) hlt hge
  obtain ⟨X, hX0, hXG, hXo, hdf, hdb⟩ := finishTask_date_in e wf (bookResources e σ t w).1 t (bookResources e σ t w).2
    w.done r _ hbi (hlastw hgt) (by rw [hcurw]; exact hu) hlt hge
  rw [hcurw] at hkeep hfr2 hXo hdf hdb
  refine ⟨hwalk, hgt, hne, fun i => ?_, X, hX0, hXG, hXo, ?_, ?_⟩
  · rw [hled]
    by_cases hi : i = w.cur
    · subst hi; rw [hkeep, hu]; simp
    · rw [hfr2 r i (fun hh => hi hh.2.symm)]
  · intro hf
    rw [htst, if_pos hf, hf, hdf]
    exact ⟨rfl, rfl⟩
  · intro hf
    rw [htst, if_neg (by rw [hf]; exact Bool.false_ne_true), hf, hdb]

/-- where the first booking of task `t` on `r` lies among the slots `vis`, and what start it was given -/
def Fst (e : Env) (σ : St) (t r : Nat) (done : Rat) (vis : List Int) : Prop :=
  (done = 0 → ∀ i ∈ vis, usageOf (σ.led.get r i).usage t = none) ∧
  (done ≠ 0 → ∃ fb, fb ∈ vis ∧ usageOf (σ.led.get r fb).usage t ≠ none ∧
      (∀ i ∈ vis, usageOf (σ.led.get r i).usage t ≠ none → fb ≤ i) ∧
      ∃ o : Rat, 0 ≤ o ∧ o ≤ (e.G : Rat) ∧ (σ.tst t).start = some (markDate e fb o))

theorem Fst.transfer {e : Env} {σ σ' : St} {t r : Nat} {done : Rat} {vis : List Int}
    (hent : ∀ i ∈ vis, (usageOf (σ'.led.get r i).usage t = none ↔ usageOf (σ.led.get r i).usage t = none))
    (hst : (σ'.tst t).start = (σ.tst t).start) (h : Fst e σ t r done vis) : Fst e σ' t r done vis := by
  refine ⟨fun hd i hi => (hent i hi).mpr (h.1 hd i hi), fun hd => ?_⟩
  obtain ⟨fb, hfb, hne, hmin, o, ho0, ho1, hs⟩ := h.2 hd
  refine ⟨fb, hfb, fun hc => hne ((hent fb hfb).mp hc), fun i hi hni => hmin i hi (fun hc => hni ((hent i hi).mpr hc)),
    o, ho0, ho1, ?_⟩
  rw [hst]; exact hs

/-- invariant of the forward walk of a single-resource task -/
structure FInv (e : Env) (σ : St) (t r : Nat) (w : Walk) (vis : List Int) : Prop where
  acc : Acc e σ t r true w vis
  inb : t < σ.ts.size
  fwd : (σ.tst t).forward = true
  nonneg : 0 ≤ w.done
  fst : Fst e σ t r w.done vis

/-- the invariant of a forward walk holds when it starts in a state that holds nothing of the task on `r` -/
theorem finv_start (e : Env) (σ : St) (t r : Nat) (w : Walk) (hb : t < σ.ts.size) (hf : (σ.tst t).forward = true)
    (hclean : ∀ i, usageOf (σ.led.get r i).usage t = none) (hd : w.done = 0) : FInv e (σ.setT t (σ.tst t)) t r w [] :=
  ⟨acc_start e _ t r true w hd hclean, by rw [size_setT]; exact hb, by rw [tst_setT_same _ _ _ hb]; exact hf,
    by rw [hd]; exact Rat.le_refl, ⟨fun _ i hi => absurd hi List.not_mem_nil, fun hne => absurd hd hne⟩⟩

theorem book_fst (e : Env) (wf : WF e) (σ : St) (t r : Nat) (w : Walk) (vis : List Int) (hw : WalkOk e t w)
    (ha : (e.taskD t).hasAlloc = true) (hsel : selectedOf e σ t w = [r]) (hpos : 0 < (e.taskD t).effort)
    (h : FInv e σ t r w vis) :
    Fst e (bookResources e σ t w).1 t r (bookResources e σ t w).2.done (w.cur :: vis) ∧
    0 ≤ (bookResources e σ t w).2.done := by
  obtain ⟨hvis, hcase⟩ := book_facts e wf σ t r true w vis ha hsel h.acc
  obtain ⟨hs1, hs2⟩ := bookResources_start e σ t w h.inb h.fwd hpos
  have hnn := h.nonneg
  have hbefore : ∀ i ∈ vis, i < w.cur := fun i hi => by simpa using h.acc.before i hi
  have hnn1 : 0 ≤ (bookResources e σ t w).2.done := by
    rcases hcase with ⟨-, hd⟩ | ⟨-, hd⟩
    · rw [hd]; exact hnn
    · exact Rat.le_trans hnn (Rat.le_of_lt hd)
  refine ⟨⟨fun hd0 i hi => ?_, fun hdne => ?_⟩, hnn1⟩
  · -- nothing credited so far: no entry anywhere
    rcases hcase with ⟨hn, hd⟩ | ⟨-, hd⟩
    · rcases List.mem_cons.mp hi with hi | hi
      · subst hi; exact hn
      · rw [hvis i hi]; exact h.fst.1 (hd.symm.trans hd0) i hi
    · rw [hd0] at hd; exact absurd hd (Rat.not_lt.mpr hnn)
  · by_cases hw0 : w.done = 0
    · -- the first booking happens in this slot
      rcases hcase with ⟨-, hd⟩ | ⟨hne, -⟩
      · exact absurd (hd.trans hw0) hdne
      · refine ⟨w.cur, List.mem_cons_self, hne, fun i hi hni => ?_, ?_⟩
        · rcases List.mem_cons.mp hi with hi | hi
          · omega
          · exact absurd (by rw [hvis i hi]; exact h.fst.1 hw0 i hi) hni
        · rcases hs2 hw0 with ⟨hd, _⟩ | hs
          · exact absurd hd hdne
          · exact ⟨w.offset, hw.off_nonneg, hw.off_le, hs⟩
    · obtain ⟨fb, hfb, hne, hmin, o, ho0, ho1, hst⟩ := h.fst.2 hw0
      refine ⟨fb, List.mem_cons_of_mem _ hfb, by rw [hvis fb hfb]; exact hne, fun i hi hni => ?_, o, ho0, ho1,
        by rw [hs1 hw0]; exact hst⟩
      rcases List.mem_cons.mp hi with hi | hi
      · have := hbefore fb hfb; omega
      · exact hmin i hi (by rw [← hvis i hi]; exact hni)

/-- **framing**: the task's bookings on `r` lie between a first slot `fb` and a last slot `last`, both booked; the
    reported start lies in slot `fb`, the reported end in slot `last` -/
def Framed (e : Env) (σ : St) (t r : Nat) : Prop :=
  ∃ fb last : Int, fb ≤ last ∧
    usageOf (σ.led.get r fb).usage t ≠ none ∧ usageOf (σ.led.get r last).usage t ≠ none ∧
    (∀ i, usageOf (σ.led.get r i).usage t ≠ none → fb ≤ i ∧ i ≤ last) ∧
    (∃ v, (σ.tst t).start = some v ∧ e.time fb ≤ v ∧ v ≤ e.time (fb + 1)) ∧
    (∃ v, (σ.tst t).stop = some v ∧ e.time last ≤ v ∧ v ≤ e.time (last + 1))

def Ordered (σ : St) (t : Nat) : Prop :=
  ∃ s v, (σ.tst t).start = some s ∧ (σ.tst t).stop = some v ∧ s ≤ v

/-- the first booking of a task in the slot of its dependency bound leaves the part of the slot before the bound alone: what
    was used before the task's own seconds is at least the offset -/
theorem bookResource_usedBefore (e : Env) (σ : St) (t : Nat) (w : Walk) (r : Nat)
    (hnone : usageOf (σ.led.get r w.cur).usage t = none) (ho : w.offset > 0) (hd : w.done = 0)
    (hb : usageOf ((bookResource e σ t w r).1.led.get r w.cur).usage t ≠ none) :
    w.offset ≤ ((bookResource e σ t w r).1.led.get r w.cur).used - taskSecs ((bookResource e σ t w r).1.led.get r w.cur) t := by
  rw [bookResource_eq] at hb ⊢
  have hn' : usageOf ((reserveStep σ w r).led.get r w.cur).usage t = none := by rw [reserveStep_get]; exact hnone
  split at hb
  · rename_i hc
    simp only [hc, if_true]
    unfold taskSecs
    rw [bookSlot_entry, usageOf_append_none _ _ _ hn', bookSlot_used]
    simp only [Option.getD_some]
    have : w.offset ≤ ((reserveStep σ w r).led.get r w.cur).used := by
      unfold reserveStep
      have hcond : (decide (w.offset > 0) && w.done == 0) = true := by simp [ho, hd]
      simp only [hcond, if_true, Ledger.get_set, and_self]
      exact reserve_used_ge _ _
    grind
  · exact absurd hn' hb

theorem bookResources_single_usedBefore (e : Env) (σ : St) (t : Nat) (w : Walk) (r : Nat)
    (ha : (e.taskD t).hasAlloc = true) (hsel : selectedOf e σ t w = [r])
    (hnone : usageOf (σ.led.get r w.cur).usage t = none) (ho : w.offset > 0) (hd : w.done = 0)
    (hb : usageOf ((bookResources e σ t w).1.led.get r w.cur).usage t ≠ none) :
    w.offset ≤ ((bookResources e σ t w).1.led.get r w.cur).used - taskSecs ((bookResources e σ t w).1.led.get r w.cur) t := by
  rw [bookResources_single_led e σ t w r ha hsel] at hb ⊢
  exact bookResource_usedBefore e σ t { w with selected := some [r] } r hnone ho hd hb

theorem scheduleSlot_finv2 (e : Env) (wf : WF e) (σ : St) (t r : Nat) (w : Walk) (vis : List Int)
    (hinv : Inv e σ) (hlf : (e.taskD t).leaf = true) (hw : WalkOk e t w)
    (ha : (e.taskD t).hasAlloc = true) (hm : (e.taskD t).milestone = false)
    (hsel : selectedOf e σ t w = [r]) (hlt : w.done < (e.taskD t).effort) (hpos : 0 < (e.taskD t).effort)
    (h : FInv e σ t r w vis) :
    ((scheduleSlot e σ t w).2.2 = true →
        FInv e (scheduleSlot e σ t w).1 t r (advance true w (scheduleSlot e σ t w).2.1) (w.cur :: vis)) ∧
    ((scheduleSlot e σ t w).2.2 = false → Framed e (scheduleSlot e σ t w).1 t r ∧ Ordered (scheduleSlot e σ t w).1 t) := by
  have hsa := scheduleSlot_acc e wf σ t r true w vis hinv hlf hw ha hm hsel hlt hpos h.acc
  obtain ⟨hfst, hnn1⟩ := book_fst e wf σ t r w vis hw ha hsel hpos h
  have hnone := h.acc.only _ h.acc.cur_notin
  have hbefore : ∀ i ∈ vis, i < w.cur := fun i hi => by simpa using h.acc.before i hi
  constructor
  · intro hc
    obtain ⟨hs1, hs2⟩ := scheduleSlot_effort_true e σ t w hm hpos hc
    have hfr := bookResources_frame e σ t w
    refine ⟨(hsa.1 hc).1, ?_, ?_, ?_, ?_⟩
    · rw [hs1, hfr.2.2.2.2]; exact h.inb
    · rw [hs1, hfr.2.2.2.1]; exact h.fwd
    · rw [advance_done, hs2]; exact hnn1
    · rw [advance_done, hs1, hs2]; exact hfst
  · intro hc
    obtain ⟨-, hgt, hcurne, hent, X, hX0, hXG, hXo, hfwd, -⟩ :=
      scheduleSlot_finish_single e wf σ t r w hinv hlf hw ha hm hsel hlt hpos hnone h.inb hc
    obtain ⟨hstart, hstop⟩ := hfwd h.fwd
    -- every entry lies in a visited slot; the first of them is where the start was marked
    have hin : ∀ i, usageOf ((scheduleSlot e σ t w).1.led.get r i).usage t ≠ none → i ∈ w.cur :: vis :=
      fun i hi => Classical.byContradiction (fun hmem => hi ((hsa.2 hc).2.1 i hmem))
    have hne1 : (bookResources e σ t w).2.done ≠ 0 :=
      fun h0 => Rat.not_lt.mpr h.nonneg (h0 ▸ hgt)
    obtain ⟨fb, hfb, hfbne, hmin, o, ho0, ho1, hst⟩ := (Fst.transfer (fun i _ => hent i) hstart hfst).2 hne1
    have hle : ∀ i ∈ w.cur :: vis, i ≤ w.cur := by
      intro i hi
      rcases List.mem_cons.mp hi with hh | hh
      · omega
      · have := hbefore i hh; omega
    refine ⟨⟨fb, w.cur, hle fb hfb, hfbne, fun hn => hcurne ((hent w.cur).mp hn),
      fun i hi => ⟨hmin i (hin i hi) hi, hle i (hin i hi)⟩, ⟨_, hst, markDate_in_slot e fb o ho0 ho1⟩,
      ⟨_, hstop, by rw [time_succ]; omega⟩⟩, ?_⟩
    obtain ⟨hs1, hs2⟩ := bookResources_start e σ t w h.inb h.fwd hpos
    by_cases hw0 : w.done = 0
    · -- the task begins and finishes in this slot: the end is counted from at least the offset of the start
      have hstart2 : ((bookResources e σ t w).1.tst t).start = some (markDate e w.cur w.offset) := by
        rcases hs2 hw0 with ⟨hd0, _⟩ | hs3
        · exact absurd hd0 hne1
        · exact hs3
      refine ⟨_, _, hstart.trans hstart2, hstop, ?_⟩
      unfold markDate
      split
      · rename_i hopos
        have := hXo _ (bookResources_single_usedBefore e σ t w r ha hsel hnone hopos hw0 hcurne)
        omega
      · omega
    · -- the start was marked in an earlier slot
      obtain ⟨fb0, hfb0, -, -, o0, h00, h01, hst0⟩ := h.fst.2 hw0
      refine ⟨_, _, hstart.trans ((congrArg TSt.start (hs1 hw0)).trans hst0), hstop, ?_⟩
      have h3 := (markDate_in_slot e fb0 o0 h00 h01).2
      have h4 : e.time (fb0 + 1) ≤ e.time w.cur := time_mono e wf.G_pos _ _ (by have := hbefore fb0 hfb0; omega)
      omega

theorem Framed.of_eq {e : Env} {σ σ' : St} {t r : Nat} (hl : σ'.led = σ.led)
    (hs : (σ'.tst t).start = (σ.tst t).start) (hp : (σ'.tst t).stop = (σ.tst t).stop)
    (h : Framed e σ t r) : Framed e σ' t r := by
  unfold Framed at *
  rw [hl, hs, hp]; exact h

theorem Framed.of_same {e : Env} {σ σ' : St} {t r : Nat} (hse : SameEntries σ σ' t) (ht : σ'.tst t = σ.tst t)
    (h : Framed e σ t r) : Framed e σ' t r := by
  unfold Framed at *
  obtain ⟨fb, last, h1, h2, h3, h4, h5, h6⟩ := h
  refine ⟨fb, last, h1, by rw [hse r fb]; exact h2, by rw [hse r last]; exact h3,
    fun i hi => h4 i (by rw [← hse r i]; exact hi), by rw [ht]; exact h5, by rw [ht]; exact h6⟩

theorem Ordered.of_tst {σ σ' : St} {t : Nat} (h : σ'.tst t = σ.tst t) (ho : Ordered σ t) : Ordered σ' t := by
  unfold Ordered at *; rw [h]; exact ho

theorem finalT_framed (e : Env) (σ : St) (t r : Nat) (c : Int) (w1 : Walk) (hb : t < σ.ts.size)
    (hpos : 0 < (e.taskD t).effort) (hf : Framed e σ t r) (ho : Ordered σ t) :
    Framed e (σ.setT t (finalT e t true c (σ.tst t) w1)) t r ∧
    Ordered (σ.setT t (finalT e t true c (σ.tst t) w1)) t := by
  obtain ⟨s, v, hs, hv, hle⟩ := ho
  obtain ⟨hd1, hd2⟩ := finalT_dates e t true c (σ.tst t) w1 s hs hpos
  have hts := tst_setT_same σ t (finalT e t true c (σ.tst t) w1) hb
  exact ⟨Framed.of_eq (σ := σ) rfl (by rw [hts, hd1, hs]) (by rw [hts, hd2]; rfl) hf,
    s, v, by rw [hts, hd1], by rw [hts, hd2]; exact hv, hle⟩

/-- **one forward task, framing**: a successful `scheduleTask` of a forward effort task with the single resource `r`,
    started with nothing of the task on `r`, leaves it framed, with start ≤ end -/
theorem scheduleTask_framed_sel2 (e : Env) (wf : WF e) (σ : St) (t r : Nat)
    (hinv : Inv e σ) (hlf : (e.taskD t).leaf = true) (hal : (e.taskD t).hasAlloc = true)
    (hnm : (e.taskD t).milestone = false) (hpos : 0 < (e.taskD t).effort)
    (hsel0 : selectBest e (σ.setT t (σ.tst t)) (e.taskD t).alloc (e.taskD t).alt (e.taskD t).effort (initCursor e σ t).1 = [r])
    (hb : t < σ.ts.size) (hf : (σ.tst t).forward = true)
    (hnd : (σ.tst t).done = false) (hclean : ∀ i, usageOf (σ.led.get r i).usage t = none)
    (hok : (scheduleTask e σ t).2 = true) : Framed e (scheduleTask e σ t).1 t r ∧ Ordered (scheduleTask e σ t).1 t := by
  obtain ⟨σl, wl, visl, hfi, -, hinvl, hwl, hsel, hlt, hcl, heq⟩ := scheduleTask_walk_single
    (J := fun σ w vis => FInv e σ t r w vis) e wf σ t r true hinv hlf hal hnm hpos hsel0 hf hnd hclean hok
    (finv_start e σ t r _ hb hf hclean rfl)
    (fun σ' w vis hi hw hs hl hJ hc => (scheduleSlot_finv2 e wf σ' t r w vis hi hlf hw hal hnm hs hl hpos hJ).1 hc)
  obtain ⟨hfr, hord⟩ := (scheduleSlot_finv2 e wf σl t r wl visl hinvl hlf hwl hal hnm hsel hlt hpos hfi).2 hcl
  rw [heq]
  exact finalT_framed e _ t r _ _ (by rw [(scheduleSlot_frame e σl t wl).2.2.2.2]; exact hfi.inb) hpos hfr hord

theorem scheduleTask_framed_sel (e : Env) (wf : WF e) (σ : St) (t r : Nat)
    (hinv : Inv e σ) (hlf : (e.taskD t).leaf = true) (hal : (e.taskD t).hasAlloc = true)
    (hnm : (e.taskD t).milestone = false) (hpos : 0 < (e.taskD t).effort)
    (hsel0 : selectBest e (σ.setT t (σ.tst t)) (e.taskD t).alloc (e.taskD t).alt (e.taskD t).effort (initCursor e σ t).1 = [r])
    (hb : t < σ.ts.size) (hf : (σ.tst t).forward = true)
    (hnd : (σ.tst t).done = false) (hclean : ∀ i, usageOf (σ.led.get r i).usage t = none)
    (hok : (scheduleTask e σ t).2 = true) : Framed e (scheduleTask e σ t).1 t r :=
  (scheduleTask_framed_sel2 e wf σ t r hinv hlf hal hnm hpos hsel0 hb hf hnd hclean hok).1

end SP
