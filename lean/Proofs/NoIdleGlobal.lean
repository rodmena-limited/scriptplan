import Proofs.NoIdle
import Proofs.DepAll
/-!
C08 for whole scenarios (forward mode, single resource): in the final ledger, between the slot of its dependency
bound — computed from the final dates of its predecessors — and any slot the task is booked in, no working slot of the
resource is without an entry, unless a limit of the resource or of the task refuses the task there (`Exhausted`; never, for an
unlimited resource).
-/
namespace SP

/-- a forward effort task with the single selected resource `r`, a leaf; the task has no start of its own -/
structure EligU (e : Env) (t r : Nat) : Prop where
  el : Elig e t r
  nostart : (e.taskD t).startProvided = false
  rleaf : (e.resD r).leaf = true

/-- the base of the dependency bound: the project start, or a later start inherited from a container -/
def baseOf (e : Env) (t : Nat) : Int :=
  match (e.taskD t).start with
  | some s => max e.start s
  | none => e.start

/-- the slot of the dependency bound, from the dates the state gives the predecessors -/
def boundSlot (e : Env) (σ : St) (t : Nat) : Int := (cursorOf e (earliestStart e σ (e.taskD t).allDeps (baseOf e t))).1

def NoIdleAt (e : Env) (σ : St) (t r : Nat) : Prop :=
  ∀ L, usageOf (σ.led.get r L).usage t ≠ none →
    ∀ i, boundSlot e σ t ≤ i → i ≤ L → e.onShift r i = true → e.leaveMark r i = false → Has r i σ ∨ Exhausted e σ t r i

def DoneIdle (e : Env) (σ : St) : Prop :=
  ∀ t r, EligU e t r → (σ.tst t).done = true → (σ.tst t).forward = true →
    (∀ dp ∈ (e.taskD t).allDeps, (σ.tst dp.target).scheduled = true) ∧ NoIdleAt e σ t r

structure IdleInv (e : Env) (σ : St) (tasks : List Nat) : Prop where
  inv : Inv e σ
  solid : Solid e σ
  nodup : tasks.Nodup
  leaf : ∀ t ∈ tasks, (e.taskD t).leaf = true
  inrange : ∀ t ∈ tasks, t < σ.ts.size
  pending : ∀ t ∈ tasks, (σ.tst t).scheduled = false ∧ (σ.tst t).done = false ∧
    (∀ r i, usageOf (σ.led.get r i).usage t = none) ∧ (EffLeaf e t → (σ.tst t).start = (e.taskD t).start)
  ok : DoneIdle e σ

theorem earliestStart_congr (e : Env) (σ σ' : St) (deps : List Dep) (base : Int)
    (h : ∀ dp ∈ deps, (σ'.tst dp.target).start = (σ.tst dp.target).start ∧ (σ'.tst dp.target).stop = (σ.tst dp.target).stop) :
    earliestStart e σ' deps base = earliestStart e σ deps base := by
  unfold earliestStart
  induction deps generalizing base with
  | nil => rfl
  | cons d ds ih =>
    simp only [List.foldl_cons]
    obtain ⟨h1, h2⟩ := h d List.mem_cons_self
    rw [h1, h2]
    exact ih _ (fun dp hdp => h dp (List.mem_cons_of_mem _ hdp))

theorem boundSlot_congr (e : Env) (σ σ' : St) (t : Nat)
    (h : ∀ dp ∈ (e.taskD t).allDeps, (σ'.tst dp.target).start = (σ.tst dp.target).start ∧ (σ'.tst dp.target).stop = (σ.tst dp.target).stop) :
    boundSlot e σ' t = boundSlot e σ t := by
  unfold boundSlot; rw [earliestStart_congr e σ σ' _ _ h]

theorem boundSlot_round (e : Env) (σ : St) (t0 t : Nat) (hus0 : (σ.tst t0).scheduled = false)
    (hdeps : ∀ dp ∈ (e.taskD t).allDeps, (σ.tst dp.target).scheduled = true) :
    boundSlot e (updateContainers e (scheduleTask e σ t0).1) t = boundSlot e σ t ∧
    ∀ dp ∈ (e.taskD t).allDeps, ((updateContainers e (scheduleTask e σ t0).1).tst dp.target).scheduled = true := by
  have htgt : ∀ dp ∈ (e.taskD t).allDeps, (updateContainers e (scheduleTask e σ t0).1).tst dp.target = σ.tst dp.target :=
    fun dp hdp => round_fixed e σ t0 dp.target
      (fun hx => by have := hdeps dp hdp; rw [hx, hus0] at this; exact Bool.noConfusion this) (Or.inr (hdeps dp hdp))
  exact ⟨boundSlot_congr e σ _ t (fun dp hdp => by rw [htgt dp hdp]; exact ⟨rfl, rfl⟩),
    fun dp hdp => by rw [htgt dp hdp]; exact hdeps dp hdp⟩

theorem initCursor_boundSlot (e : Env) (σ : St) (t : Nat) (hf : (σ.tst t).forward = true)
    (hns : (e.taskD t).startProvided = false) (hstart : (σ.tst t).start = (e.taskD t).start) :
    (initCursor e σ t).1 = boundSlot e σ t := by
  rw [initCursor_forward e σ t hf hns]
  unfold boundSlot boundOf baseOf
  rw [hstart]
  cases (e.taskD t).start <;> rfl

theorem NoIdleAt.round {e : Env} {σ : St} {t r : Nat} (wf : WF e) (t0 : Nat) (hinv : Inv e σ) (hlf0 : (e.taskD t0).leaf = true)
    (hne : t ≠ t0) (hus0 : (σ.tst t0).scheduled = false)
    (hdeps : ∀ dp ∈ (e.taskD t).allDeps, (σ.tst dp.target).scheduled = true) (h : NoIdleAt e σ t r) :
    NoIdleAt e (updateContainers e (scheduleTask e σ t0).1) t r := by
  intro L hL i hbi hiL hon hnl
  rw [(boundSlot_round e σ t0 t hus0 hdeps).1] at hbi
  rw [updateContainers_led, scheduleTask_same e σ t0 t (Ne.symm hne) r L] at hL
  exact (h L hL i hbi hiL hon hnl).imp (closed_round (has_closed e r i) wf σ t0 hinv hlf0 trivial)
    (exhausted_closed_step (fun lid ro => closed_round (refuses_closed e lid i ro) wf σ t0 hinv hlf0 trivial))

theorem NoIdleAt.placed {e : Env} {σ : St} {t r : Nat} (wf : WF e) (hinv : Inv e σ) (hs : Solid e σ)
    (hlf : (e.taskD t).leaf = true) (hal : (e.taskD t).hasAlloc = true) (hnm : (e.taskD t).milestone = false)
    (hpos : 0 < (e.taskD t).effort) (hns : (e.taskD t).startProvided = false)
    (hsel1 : selectBest e (σ.setT t (σ.tst t)) (e.taskD t).alloc (e.taskD t).alt (e.taskD t).effort (initCursor e σ t).1 = [r])
    (hb : t < σ.ts.size) (hf : (σ.tst t).forward = true)
    (hp : (σ.tst t).scheduled = false ∧ (σ.tst t).done = false ∧ (∀ r i, usageOf (σ.led.get r i).usage t = none) ∧
      (EffLeaf e t → (σ.tst t).start = (e.taskD t).start))
    (hdeps : ∀ dp ∈ (e.taskD t).allDeps, (σ.tst dp.target).scheduled = true)
    (hleaf : (e.resD r).leaf = true) (hok : (scheduleTask e σ t).2 = true) :
    NoIdleAt e (updateContainers e (scheduleTask e σ t).1) t r := by
  intro L hL i hbi hiL hon hnl
  rw [(boundSlot_round e σ t t hp.1 hdeps).1, ← initCursor_boundSlot e σ t hf hns (hp.2.2.2 ⟨hlf, hpos, hnm⟩)] at hbi
  rw [updateContainers_led] at hL
  exact (scheduleTask_no_idle_interval_sel e wf σ t r hinv hs hlf hal hnm hpos hsel1 hb hf hp.2.1 (hp.2.2.1 r) hleaf hok
    L hL i hbi hiL hon hnl).imp (Has.of_led (updateContainers_led e _))
    (exhausted_closed_step (fun lid ro => closed_updateContainers (refuses_closed e lid i ro) _))

/-- the common part of the loop invariants of this family survives a round: the work list, and what is pending on it -/
theorem idle_round_pending (e : Env) (wf : WF e) (σ : St) (tasks : List Nat) (t0 : Nat) (hinv : Inv e σ) (hs : Solid e σ)
    (hnd : tasks.Nodup) (hleaf : ∀ t ∈ tasks, (e.taskD t).leaf = true) (hmem : t0 ∈ tasks)
    (hrange : ∀ t ∈ tasks, t < σ.ts.size)
    (hpend : ∀ t ∈ tasks, (σ.tst t).scheduled = false ∧ (σ.tst t).done = false ∧
      (∀ r i, usageOf (σ.led.get r i).usage t = none) ∧ (EffLeaf e t → (σ.tst t).start = (e.taskD t).start)) :
    Inv e (updateContainers e (scheduleTask e σ t0).1) ∧ Solid e (updateContainers e (scheduleTask e σ t0).1) ∧
    (tasks.erase t0).Nodup ∧ (∀ t ∈ tasks.erase t0, (e.taskD t).leaf = true) ∧
    (∀ t ∈ tasks.erase t0, t < (updateContainers e (scheduleTask e σ t0).1).ts.size) ∧
    ∀ t ∈ tasks.erase t0, ((updateContainers e (scheduleTask e σ t0).1).tst t).scheduled = false ∧
      ((updateContainers e (scheduleTask e σ t0).1).tst t).done = false ∧
      (∀ r i, usageOf ((updateContainers e (scheduleTask e σ t0).1).led.get r i).usage t = none) ∧
      (EffLeaf e t → ((updateContainers e (scheduleTask e σ t0).1).tst t).start = (e.taskD t).start) := by
  obtain ⟨hinv', hnd', hlf', hsz, hrest⟩ := round_worklist e wf σ tasks t0 hinv hnd hleaf hmem
  refine ⟨hinv', closed_round (solid_closed e) wf σ t0 hinv (hleaf t0 hmem) trivial hs, hnd', hlf',
    fun t ht => by rw [hsz]; exact hrange t (hrest t ht).1, fun t ht => ?_⟩
  obtain ⟨htm, hts, hse⟩ := hrest t ht
  obtain ⟨h1, h2, h3, h4⟩ := hpend t htm
  rw [hts]
  exact ⟨h1, h2, fun r i => (hse r i).trans (h3 r i), h4⟩

theorem loopStart_pending (e : Env) (t : Nat) (ht : t ∈ todoOf e (loopStart e)) :
    ((loopStart e).tst t).scheduled = false ∧ ((loopStart e).tst t).done = false ∧
    (∀ r i, usageOf ((loopStart e).led.get r i).usage t = none) ∧
    (EffLeaf e t → ((loopStart e).tst t).start = (e.taskD t).start) :=
  ⟨(todoOf_loopStart e t ht).2.2.1, (todoOf_loopStart e t ht).2.2.2.1, (todoOf_loopStart e t ht).2.2.2.2,
   fun hel => (loopStart_effLeaf e t hel).2⟩

theorem idleInv_step (e : Env) (wf : WF e) (σ : St) (tasks : List Nat) (t0 : Nat) (h : IdleInv e σ tasks)
    (hmem : t0 ∈ tasks) (hready : ready e σ t0 = true) :
    IdleInv e (updateContainers e (scheduleTask e σ t0).1) (tasks.erase t0) := by
  obtain ⟨h1, h2, h3, h4, h5, h6⟩ := idle_round_pending e wf σ tasks t0 h.inv h.solid h.nodup h.leaf hmem h.inrange h.pending
  refine ⟨h1, h2, h3, h4, h5, h6, fun t r hel hd hfw => ?_⟩
  have hp0 := h.pending t0 hmem
  by_cases heq : t = t0
  · subst heq
    rw [updateContainers_leaf e _ t hel.el.leaf] at hd hfw
    rw [scheduleTask_self_forward] at hfw
    have hdeps := ready_forward_deps e σ t hfw hready
    exact ⟨(boundSlot_round e σ t t hp0.1 hdeps).2,
      NoIdleAt.placed wf h.inv h.solid hel.el.leaf hel.el.alloc hel.el.nomile hel.el.effort hel.nostart (hel.el.sel _ _)
        (h.inrange t hmem) hfw hp0 hdeps hel.rleaf (scheduleTask_done e σ t hp0.2.1 hd)⟩
  · rw [round_fixed e σ t0 t heq (Or.inl hel.el.leaf)] at hd hfw
    obtain ⟨hdeps, hidle⟩ := h.ok t r hel hd hfw
    exact ⟨(boundSlot_round e σ t0 t hp0.1 hdeps).2, hidle.round wf t0 h.inv (h.leaf t0 hmem) heq hp0.1 hdeps⟩

/-- `finishScenario` changes no date: the containers were dated as their children were placed (`scheduleScenario_cont`) -/
theorem boundSlot_finish (e : Env) (tr : Tree e) (t : Nat) :
    boundSlot e (runScenario e) t = boundSlot e (scheduleScenario e (prepare e (initState e))) t :=
  boundSlot_congr e _ _ t (fun dp _ =>
    ⟨(finishScenario_sameDates e _ (scheduleScenario_cont e tr).1 (scheduleScenario_cont e tr).2 dp.target).1,
     (finishScenario_sameDates e _ (scheduleScenario_cont e tr).1 (scheduleScenario_cont e tr).2 dp.target).2.1⟩)

theorem NoIdleAt.finish {e : Env} {t r : Nat} (tr : Tree e)
    (h : NoIdleAt e (scheduleScenario e (prepare e (initState e))) t r) : NoIdleAt e (runScenario e) t r := by
  intro L hL i hbi hiL hon hnl
  rw [boundSlot_finish e tr] at hbi
  unfold runScenario at hL ⊢
  rw [finishScenario_led] at hL
  exact (h L hL i hbi hiL hon hnl).imp (Has.of_led (finishScenario_led e _))
    (exhausted_closed_step (fun lid ro => closed_finishScenario (refuses_closed e lid i ro) _))

/-- **C08, forward mode, end to end.**  After scheduling any well-formed project with a well-formed task tree: for every
    completed forward effort task `t` without a start of its own whose single selected resource `r` is a leaf, every
    predecessor is scheduled, and between the slot of the dependency bound — the latest of the project start, an inherited
    start and every predecessor's (start | end) + gap, all taken from the FINAL schedule — and any slot `L` in which `t` is
    booked, every slot in which `r` is on shift and not on leave carries an entry in the final ledger, unless a limit of the
    resource (own or of a group) or of the task (own or of a container) refuses it in the final state (its counter for that
    day / week is at the limit): no working, unbooked slot within the limits is left between the bound and the end. -/
theorem runScenario_doneIdle (e : Env) (wf : WF e) (tr : Tree e) : DoneIdle e (runScenario e) := by
  obtain ⟨rest, -, h⟩ := scenario_induct (I := fun tasks _ σ => IdleInv e σ tasks)
    (fun tasks _ σ t0 h hf => idleInv_step e wf σ tasks t0 h (List.mem_of_find?_eq_some hf) (by simpa using List.find?_some hf))
    (fun _ _ σ _ h => ⟨Inv.of_eq (σ := σ) rfl rfl h.inv, ⟨h.solid.room, h.solid.marked⟩, h.nodup, h.leaf, h.inrange, h.pending, h.ok⟩)
    ⟨loopStart_inv e wf, solid_loopStart e wf, todoOf_nodup e _, todoOf_leaf e _, fun t ht => (todoOf_loopStart e t ht).2.1,
     loopStart_pending e, fun t r _ hd => absurd hd (by rw [loopStart_done]; exact Bool.noConfusion)⟩
  intro t r hel hdone hfw
  have hsd := finishScenario_sameDates e _ (scheduleScenario_cont e tr).1 (scheduleScenario_cont e tr).2
  rw [runScenario_leafT e t hel.el.leaf] at hdone hfw
  obtain ⟨hdeps, hidle⟩ := h.ok t r hel hdone hfw
  exact ⟨fun dp hdp => by unfold runScenario; rw [(hsd dp.target).2.2]; exact hdeps dp hdp, hidle.finish tr⟩

end SP
