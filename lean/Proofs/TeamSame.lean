import Proofs.TeamEffort
import Proofs.OneSet
/-!
C03, second clause, for whole scenarios and ANY team (members of different efficiencies included): all members of a team hold
entries of the task in the same slots, for the same seconds.
-/
namespace SP

theorem walkLoop_sameAll (e : Env) (wf : WF e) (t : Nat) (sel : List Nat) (fwd : Bool) (fuel : Nat) (σ : St) (w : Walk)
    (vis : List Int) (hinv : Inv e σ) (hlf : (e.taskD t).leaf = true) (hw : WalkOk e t w)
    (ha : (e.taskD t).hasAlloc = true) (hm : (e.taskD t).milestone = false)
    (hsel : selectedOf e σ t w = sel) (hteam : isTeam e t sel = true) (hnd : sel.Nodup)
    (hpos : 0 < (e.taskD t).effort) (hacc : TS σ t sel fwd w vis) :
    SameAll t sel (walkLoop e t fwd fuel σ w).1 := by
  induction fuel generalizing σ w vis with
  | zero => exact hacc.same
  | succ f ih =>
    have hs := scheduleSlot_inv e σ t w wf hinv hlf hw
    have hsa := scheduleSlot_ts e wf σ t sel fwd w vis hinv ha hm hsel hteam hnd hpos hacc
    unfold walkLoop
    simp only []
    split
    · exact hsa.2
    · rename_i hc
      have hcont : (scheduleSlot e σ t w).2.2 = true := by simpa using hc
      obtain ⟨hacc', hsel'⟩ := hsa.1 hcont
      split
      · exact hsa.2
      · exact ih _ _ (w.cur :: vis) hs.1 (walkOk_advance e t wf _ _ _ (hs.2 hcont))
          (selectedOf_some e _ t _ sel hsel') hacc'

/-- a team task: a leaf effort task whose selection is always the list `sel` of more than one pairwise different members -/
structure TeamAny (e : Env) (t : Nat) (sel : List Nat) : Prop where
  leaf : (e.taskD t).leaf = true
  alloc : (e.taskD t).hasAlloc = true
  nomile : (e.taskD t).milestone = false
  effort : 0 < (e.taskD t).effort
  pick : ∀ σ c, selectBest e σ (e.taskD t).alloc (e.taskD t).alt (e.taskD t).effort c = sel
  many : 1 < sel.length
  nodup : sel.Nodup

theorem TeamAny.isTeam {e : Env} {t : Nat} {sel : List Nat} (h : TeamAny e t sel) : isTeam e t sel = true := by
  unfold SP.isTeam
  have h1 := h.effort
  have h2 := h.many
  simp [h1, h2]

/-- **one team task**: started without entries, all members end up with the same entries -/
theorem scheduleTask_sameAll (e : Env) (wf : WF e) (σ : St) (t : Nat) (sel : List Nat)
    (hinv : Inv e σ) (hel : TeamAny e t sel)
    (hclean : ∀ r ∈ sel, ∀ i, usageOf (σ.led.get r i).usage t = none) : SameAll t sel (scheduleTask e σ t).1 := by
  have h0 : SameAll t sel σ := fun r hr r' hr' i => by rw [hclean r hr i, hclean r' hr' i]
  rcases scheduleTask_led e σ t with hl | hl
  · exact h0.of_led hl
  · exact (walkLoop_sameAll e wf t sel (σ.tst t).forward (e.size.toNat + 3) (walkStart e σ t).1 (walkStart e σ t).2 []
      (inv_setT _ _ hinv) hel.leaf (walkStart_walkOk e wf σ t) hel.alloc hel.nomile
      (by unfold selectedOf; exact hel.pick _ _) hel.isTeam hel.nodup hel.effort
      ⟨fun r hr i _ => hclean r hr i, fun i hi => absurd hi List.not_mem_nil, h0⟩).of_led hl

def TeamsSame (e : Env) (σ : St) : Prop := ∀ t sel, TeamAny e t sel → SameAll t sel σ

structure TSInv (e : Env) (σ : St) (tasks : List Nat) : Prop where
  inv : Inv e σ
  nodup : tasks.Nodup
  leaf : ∀ t ∈ tasks, (e.taskD t).leaf = true
  pending : ∀ t ∈ tasks, ∀ r i, usageOf (σ.led.get r i).usage t = none
  ok : TeamsSame e σ

theorem tsInv_step (e : Env) (wf : WF e) (σ : St) (tasks : List Nat) (t0 : Nat) (h : TSInv e σ tasks) (hmem : t0 ∈ tasks) :
    TSInv e (updateContainers e (scheduleTask e σ t0).1) (tasks.erase t0) := by
  obtain ⟨hinv', hnd', hlf', -, hrest⟩ := round_worklist e wf σ tasks t0 h.inv h.nodup h.leaf hmem
  refine ⟨hinv', hnd', hlf', fun t ht r i => ?_, fun t sel hel => ?_⟩
  · obtain ⟨htm, -, hse⟩ := hrest t ht
    exact (hse r i).trans (h.pending t htm r i)
  · by_cases heq : t = t0
    · subst heq
      exact (scheduleTask_sameAll e wf σ t sel h.inv hel (fun r _ i => h.pending t hmem r i)).of_led
        (updateContainers_led e _)
    · intro r hr r' hr' i
      have hse := (round_other e σ t0 t hel.leaf heq).2
      rw [hse r i, hse r' i]
      exact h.ok t sel hel r hr r' hr' i

/-- **C03, second clause, end to end, any team.**  After scheduling any well-formed project, all members of a team allocation
    (more than one pairwise different resources, whatever their efficiencies, calendars, limits and other bookings) hold entries
    of the task in exactly the same slots, for exactly the same seconds. -/
theorem runScenario_teamsSame (e : Env) (wf : WF e) : TeamsSame e (runScenario e) := by
  obtain ⟨rest, -, h⟩ := scenario_induct (I := fun tasks _ σ => TSInv e σ tasks)
    (fun tasks _ σ t0 h hf => tsInv_step e wf σ tasks t0 h (List.mem_of_find?_eq_some hf))
    (fun _ _ σ _ h => ⟨Inv.of_eq (σ := σ) rfl rfl h.inv, h.nodup, h.leaf, h.pending, h.ok⟩)
    ⟨loopStart_inv e wf, todoOf_nodup e _, todoOf_leaf e _, fun t ht => (todoOf_loopStart e t ht).2.2.2.2,
     fun t sel _ r _ r' _ i => by rw [loopStart_led, loopStart_led]⟩
  exact fun t sel hel => (h.ok t sel hel).of_led (finishScenario_led e _)

end SP
