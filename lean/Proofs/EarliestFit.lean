import Proofs.NoIdleGlobal
import Proofs.Order
/-!
C07, earliest fit, for whole scenarios: there is a linear order of the tasks (the order in which the loop placed them) such
that every forward effort task with a single resource is an *earliest fit against the tasks before it in that
order*: between the slot of its dependency bound and any slot it is booked in, every working slot of the resource carries
the task itself or a task placed earlier, or a limit refuses the task there (`Exhausted`) — it never leaves a slot to a task
placed later.  Here: the statement about one task
(`FitAt`), the loop invariant `FitInv` and its step; the induction itself is in `Proofs/AltFit`.
-/
namespace SP

def Owned (S : List Nat) (σ : St) : Prop := ∀ r i x, x ∈ (σ.led.get r i).usage → x.1 ∈ S

theorem owned_closed (e : Env) (S : List Nat) : Closed e (Owned S) (fun t => t ∈ S) :=
  closed_of_slots (fun _ _ s _ => ∀ x ∈ s.usage, x.1 ∈ S)
    (fun _ _ s _ off _ _ h => by rw [reserve_usage]; exact h)
    (fun _ _ s _ t a hT h x hx => by
      rcases mem_release_usage hx with h1 | h1
      · exact h x h1
      · rw [h1]; exact hT)
    (fun _ _ s _ t hT h x hx => by
      simp only [Slot.book, List.mem_append, List.mem_singleton] at hx
      rcases hx with h1 | h1
      · exact h x h1
      · rw [h1]; exact hT)

theorem Owned.mono {S S' : List Nat} {σ : St} (h : Owned S σ) (hs : ∀ x ∈ S, x ∈ S') : Owned S' σ :=
  fun r i x hx => hs _ (h r i x hx)

/-- a forward walk has not yet touched the slots from its cursor on -/
theorem walkVisits_ahead (e : Env) (t : Nat) (fuel : Nat) (σ : St) (w : Walk) (r' : Nat) :
    ∀ p ∈ walkVisits e t fuel σ w, ∀ i', p.2.cur ≤ i' → p.1.led.get r' i' = σ.led.get r' i' := by
  intro p hp
  rw [walkVisits_eq] at hp
  exact (visits_reach (P := fun σ' w' => ∀ i', w'.cur ≤ i' → σ'.led.get r' i' = σ.led.get r' i')
    (fun σ' w' h _ _ _ i' hi' => by
      rw [next_cur, if_pos rfl] at hi'
      rw [scheduleSlot_other e σ' t w' r' i' (by omega)]
      exact h i' (by omega))
    fuel σ w (fun _ _ => rfl) p hp).1

/-- **along the walk**: every visited working slot ends up carrying the task itself or a task that was in the ledger before
    the walk began -/
theorem walkLoop_fit (e : Env) (wf : WF e) (t r : Nat) (placed : List Nat) (fuel : Nat) (σ : St) (w : Walk) (vis : List Int)
    (hinv : Inv e σ) (hs : Solid e σ) (hlf : (e.taskD t).leaf = true) (hw : WalkOk e t w) (hin : WalkIn e w)
    (ha : (e.taskD t).hasAlloc = true) (hm : (e.taskD t).milestone = false)
    (hsel : selectedOf e σ t w = [r]) (hlt : w.done < (e.taskD t).effort) (hpos : 0 < (e.taskD t).effort)
    (h : FInv e σ t r w vis) (hok : (walkLoop e t true fuel σ w).2.2 = true)
    (hleaf : (e.resD r).leaf = true)
    (hown : Owned placed σ) (hnp : t ∉ placed) :
    ∀ p ∈ walkVisits e t fuel σ w, e.onShift r p.2.cur = true → e.leaveMark r p.2.cur = false →
      usageOf ((walkLoop e t true fuel σ w).1.led.get r p.2.cur).usage t ≠ none ∨
      (∃ t' ∈ placed, usageOf ((walkLoop e t true fuel σ w).1.led.get r p.2.cur).usage t' ≠ none) ∨
      Exhausted e (walkLoop e t true fuel σ w).1 t r p.2.cur := by
  intro p hp hon hnl
  have hiff := walkLoop_no_idle e wf t r fuel σ w vis hinv hlf hw ha hm hsel hlt hpos h hok p hp
  by_cases hg : gate e p.1 t p.2 r = true
  · exact Or.inl (hiff.mpr hg)
  · right
    have hg' : gate e p.1 t p.2 r = false := by simpa using hg
    obtain ⟨hi1, hs1, hw1, hin1⟩ := walkVisits_inv e wf t fuel σ w hinv hs hlf hw hin p hp
    rcases gate_closed_has e wf p.1 t p.2 r hi1 hs1 hw1 hin1 hleaf hon hnl hg' with hhas | hex
    · left
      unfold Has at hhas
      rw [walkVisits_ahead e t fuel σ w r p hp p.2.cur (Int.le_refl _)] at hhas
      obtain ⟨x, hx⟩ := List.exists_mem_of_ne_nil _ hhas
      have hxp := hown r p.2.cur x hx
      have hne : t ≠ x.1 := fun heq => hnp (heq ▸ hxp)
      refine ⟨x.1, hxp, ?_⟩
      rw [walkLoop_same e t true fuel σ w x.1 hne r p.2.cur]
      exact usageOf_of_mem hx
    · right
      obtain ⟨f', hf'⟩ := walkVisits_suffix e t fuel σ w p hp
      rw [hf']
      exact exhausted_closed_step (fun lid ro hr =>
        closed_walkLoop (refuses_closed e lid p.2.cur ro) wf t true f' p.1 p.2 hi1 hlf trivial hw1 hin1 hr) hex

/-- how a task fits: between the bound slot and any slot it is booked in, a working slot of `r` carries the task or one of `pre` -/
def FitAt (e : Env) (σ : St) (t r : Nat) (pre : List Nat) : Prop :=
  ∀ L, usageOf (σ.led.get r L).usage t ≠ none →
    ∀ i, boundSlot e σ t ≤ i → i ≤ L → e.onShift r i = true → e.leaveMark r i = false →
      usageOf (σ.led.get r i).usage t ≠ none ∨ (∃ t' ∈ pre, usageOf (σ.led.get r i).usage t' ≠ none) ∨ Exhausted e σ t r i

/-- **one forward task**: an earliest fit against what is in the ledger when it is placed -/
theorem scheduleTask_fit_sel (e : Env) (wf : WF e) (σ : St) (t r : Nat) (placed : List Nat)
    (hinv : Inv e σ) (hs : Solid e σ) (hlf : (e.taskD t).leaf = true) (hal : (e.taskD t).hasAlloc = true)
    (hnm : (e.taskD t).milestone = false) (hpos : 0 < (e.taskD t).effort)
    (hsel1 : selectBest e (σ.setT t (σ.tst t)) (e.taskD t).alloc (e.taskD t).alt (e.taskD t).effort (initCursor e σ t).1 = [r])
    (hb : t < σ.ts.size) (hf : (σ.tst t).forward = true)
    (hnd : (σ.tst t).done = false) (hclean : ∀ i, usageOf (σ.led.get r i).usage t = none)
    (hleaf : (e.resD r).leaf = true)
    (hown : Owned placed σ) (hnp : t ∉ placed)
    (hok : (scheduleTask e σ t).2 = true) :
    ∀ L, usageOf ((scheduleTask e σ t).1.led.get r L).usage t ≠ none →
      ∀ i, (initCursor e σ t).1 ≤ i → i ≤ L → e.onShift r i = true → e.leaveMark r i = false →
        usageOf ((scheduleTask e σ t).1.led.get r i).usage t ≠ none ∨
        (∃ t' ∈ placed, usageOf ((scheduleTask e σ t).1.led.get r i).usage t' ≠ none) ∨
        Exhausted e (scheduleTask e σ t).1 t r i := by
  obtain ⟨hin, hw, hfin, hled, hcnt⟩ := scheduleTask_forward_ok e wf σ t hal hf hnd hok
  intro L hL i hci hiL hon hnl
  rw [hled] at hL ⊢
  have hne : (walkLoop e t true (e.size.toNat + 3) (σ.setT t (σ.tst t))
      { cur := (initCursor e σ t).1, offset := (initCursor e σ t).2 }).1.led.get r L ≠ (σ.setT t (σ.tst t)).led.get r L :=
    fun h => hL (by rw [h]; exact hclean L)
  obtain ⟨p, hp, hcur⟩ := walkVisits_interval e t _ _ _ r L i hne hci hiL
  have := walkLoop_fit e wf t r placed _ _ _ [] (inv_setT _ _ hinv) ((solid_closed e).setT σ t _ hs) hlf hw hin hal hnm
    (by unfold selectedOf; exact hsel1) hpos hpos (finv_start e σ t r _ hb hf hclean rfl) hfin hleaf hown hnp p hp
    (by rw [hcur]; exact hon) (by rw [hcur]; exact hnl)
  rw [hcur] at this
  exact this.imp id (Or.imp id (Exhausted.of_cnt hcnt))

theorem FitAt.round {e : Env} {σ : St} {t r : Nat} {pre : List Nat} (wf : WF e) (t0 : Nat) (hinv : Inv e σ)
    (hlf0 : (e.taskD t0).leaf = true) (hne : t ≠ t0) (hus0 : (σ.tst t0).scheduled = false)
    (hdeps : ∀ dp ∈ (e.taskD t).allDeps, (σ.tst dp.target).scheduled = true) (hpre : t0 ∉ pre) (h : FitAt e σ t r pre) :
    FitAt e (updateContainers e (scheduleTask e σ t0).1) t r pre := by
  intro L hL i hbi hiL hon hnl
  rw [(boundSlot_round e σ t0 t hus0 hdeps).1] at hbi
  rw [updateContainers_led, scheduleTask_same e σ t0 t (Ne.symm hne) r L] at hL
  rw [updateContainers_led, scheduleTask_same e σ t0 t (Ne.symm hne) r i]
  rcases h L hL i hbi hiL hon hnl with h1 | ⟨t', ht', h1⟩ | h1
  · exact Or.inl h1
  · exact Or.inr (Or.inl ⟨t', ht', by rw [scheduleTask_same e σ t0 t' (fun h5 => hpre (h5 ▸ ht')) r i]; exact h1⟩)
  · exact Or.inr (Or.inr (exhausted_closed_step
      (fun lid ro => closed_round (refuses_closed e lid i ro) wf σ t0 hinv hlf0 trivial) h1))

theorem FitAt.placed {e : Env} {σ : St} {t r : Nat} {placed : List Nat} (wf : WF e) (hinv : Inv e σ) (hs : Solid e σ)
    (hlf : (e.taskD t).leaf = true) (hal : (e.taskD t).hasAlloc = true) (hnm : (e.taskD t).milestone = false)
    (hpos : 0 < (e.taskD t).effort) (hns : (e.taskD t).startProvided = false)
    (hsel1 : selectBest e (σ.setT t (σ.tst t)) (e.taskD t).alloc (e.taskD t).alt (e.taskD t).effort (initCursor e σ t).1 = [r])
    (hb : t < σ.ts.size) (hf : (σ.tst t).forward = true)
    (hp : (σ.tst t).scheduled = false ∧ (σ.tst t).done = false ∧ (∀ r i, usageOf (σ.led.get r i).usage t = none) ∧
      (EffLeaf e t → (σ.tst t).start = (e.taskD t).start))
    (hdeps : ∀ dp ∈ (e.taskD t).allDeps, (σ.tst dp.target).scheduled = true)
    (hleaf : (e.resD r).leaf = true) (hown : Owned placed σ) (hnp : t ∉ placed) (hok : (scheduleTask e σ t).2 = true) :
    FitAt e (updateContainers e (scheduleTask e σ t).1) t r placed := by
  intro L hL i hbi hiL hon hnl
  rw [(boundSlot_round e σ t t hp.1 hdeps).1, ← initCursor_boundSlot e σ t hf hns (hp.2.2.2 ⟨hlf, hpos, hnm⟩)] at hbi
  rw [updateContainers_led] at hL ⊢
  exact (scheduleTask_fit_sel e wf σ t r placed hinv hs hlf hal hnm hpos hsel1 hb hf hp.2.1 (hp.2.2.1 r) hleaf hown hnp hok
    L hL i hbi hiL hon hnl).imp id (Or.imp id
      (exhausted_closed_step (fun lid ro => closed_updateContainers (refuses_closed e lid i ro) _)))

theorem FitAt.finish {e : Env} {t r : Nat} {pre : List Nat} (tr : Tree e)
    (h : FitAt e (scheduleScenario e (prepare e (initState e))) t r pre) : FitAt e (runScenario e) t r pre := by
  intro L hL i hbi hiL hon hnl
  rw [boundSlot_finish e tr] at hbi
  unfold runScenario at hL ⊢
  rw [finishScenario_led] at hL ⊢
  exact (h L hL i hbi hiL hon hnl).imp id (Or.imp id
    (exhausted_closed_step (fun lid ro => closed_finishScenario (refuses_closed e lid i ro) _)))

/-! ### the pick loop, with the order of placement as a ghost -/

/-- `placed` lists the tasks the loop has processed, the latest first -/
def DoneFit (e : Env) (σ : St) (placed : List Nat) : Prop :=
  ∀ t r, EligU e t r → (σ.tst t).done = true → (σ.tst t).forward = true →
    ∃ post pre, placed = post ++ t :: pre ∧ FitAt e σ t r pre

/-- why `t` was not placed before `t0` although it was still waiting when `t0` was picked (`pre` = the tasks placed before `t0`):
    `t0` ranks at or before `t` in the priority order; or `t` is not in forward mode; or one of `t`'s predecessors is a
    container, or had not been placed yet, or had been placed and could not be scheduled -/
def Reason (e : Env) (σ : St) (t0 : Nat) (pre : List Nat) (t : Nat) : Prop :=
  prioLe e t0 t = true ∨ (σ.tst t).forward = false ∨
  ∃ dp ∈ (e.taskD t).allDeps, (e.taskD dp.target).leaf = false ∨ dp.target ∉ pre ∨
    (dp.target ∈ pre ∧ (σ.tst dp.target).scheduled = false)

/-- the placement order respects the priority order: whoever is placed after `t0` had a reason -/
def PlaceOrder (e : Env) (σ : St) (placed rest : List Nat) : Prop :=
  ∀ post pre t0, placed = post ++ t0 :: pre → ∀ t, (t ∈ rest ∨ t ∈ post) → Reason e σ t0 pre t

theorem Reason.keep {e : Env} {σ σ' : St} {t0 t : Nat} {pre : List Nat} (hfw : (σ'.tst t).forward = (σ.tst t).forward)
    (hsch : ∀ dp ∈ (e.taskD t).allDeps, dp.target ∈ pre → (σ'.tst dp.target).scheduled = (σ.tst dp.target).scheduled)
    (h : Reason e σ t0 pre t) : Reason e σ' t0 pre t := by
  rcases h with h1 | h1 | ⟨dp, hdp, h1⟩
  · exact Or.inl h1
  · exact Or.inr (Or.inl (by rw [hfw]; exact h1))
  · refine Or.inr (Or.inr ⟨dp, hdp, ?_⟩)
    rcases h1 with h2 | h2 | ⟨h2, h3⟩
    · exact Or.inl h2
    · exact Or.inr (Or.inl h2)
    · exact Or.inr (Or.inr ⟨h2, by rw [hsch dp hdp h2]; exact h3⟩)

structure FitInv (e : Env) (σ : St) (tasks placed : List Nat) : Prop where
  sorted : tasks.Pairwise (fun a b => prioLe e a b = true)
  placedLeaf : ∀ t ∈ placed, (e.taskD t).leaf = true
  ord : PlaceOrder e σ placed tasks
  inv : Inv e σ
  solid : Solid e σ
  owned : Owned placed σ
  nodup : tasks.Nodup
  leaf : ∀ t ∈ tasks, (e.taskD t).leaf = true
  inrange : ∀ t ∈ tasks, t < σ.ts.size
  pending : ∀ t ∈ tasks, t ∉ placed ∧ (σ.tst t).scheduled = false ∧ (σ.tst t).done = false ∧
    (∀ r i, usageOf (σ.led.get r i).usage t = none) ∧ (EffLeaf e t → (σ.tst t).start = (e.taskD t).start)
  deps : ∀ t, (e.taskD t).leaf = true → (σ.tst t).done = true → (σ.tst t).forward = true →
    ∀ dp ∈ (e.taskD t).allDeps, (σ.tst dp.target).scheduled = true
  ok : DoneFit e σ placed

/-- when `t0` is picked from the sorted work list, every other task still waiting has a reason: it ranks after `t0`, or it
    ranks before and is not ready -/
theorem reason_of_pick (e : Env) (σ : St) (tasks placed : List Nat) (t0 : Nat)
    (hsorted : tasks.Pairwise (fun a b => prioLe e a b = true))
    (hfind : tasks.find? (fun t => ready e σ t) = some t0) (t : Nat) (htm : t ∈ tasks) (hne : t ≠ t0) :
    Reason e σ t0 placed t := by
  obtain ⟨_, l1, l2, hl, hnr⟩ := picks_first_ready e σ tasks t0 hfind
  rw [hl] at htm hsorted
  rcases List.mem_append.mp htm with hin | hin
  · -- ranked before t0 and not ready
    have hr := hnr t hin
    by_cases hfw : (σ.tst t).forward = true
    · right; right
      unfold ready asapReady at hr
      simp only [hfw, if_true] at hr
      obtain ⟨dp, hdp, hns⟩ := List.all_eq_false.mp hr
      have hns := (Bool.not_eq_true _).mp hns
      refine ⟨dp, hdp, ?_⟩
      by_cases hlf : (e.taskD dp.target).leaf = true
      · by_cases hp : dp.target ∈ placed
        · exact Or.inr (Or.inr ⟨hp, hns⟩)
        · exact Or.inr (Or.inl hp)
      · exact Or.inl (by simpa using hlf)
    · exact Or.inr (Or.inl (by simpa using hfw))
  · -- ranked after t0
    rcases List.mem_cons.mp hin with h1 | h1
    · exact absurd h1 hne
    · exact Or.inl ((List.pairwise_cons.mp (List.pairwise_append.mp hsorted).2.1).1 t h1)

theorem fitInv_step (e : Env) (wf : WF e) (σ : St) (tasks placed : List Nat) (t0 : Nat) (h : FitInv e σ tasks placed)
    (hfind : tasks.find? (fun t => ready e σ t) = some t0) :
    FitInv e (updateContainers e (scheduleTask e σ t0).1) (tasks.erase t0) (t0 :: placed) := by
  have hmem : t0 ∈ tasks := List.mem_of_find?_eq_some hfind
  have hready : ready e σ t0 = true := by
    have := List.find?_some hfind; simpa using this
  have hlf0 := h.leaf t0 hmem
  obtain ⟨hnp0, hus0, hnd0, hclean0, hstart0⟩ := h.pending t0 hmem
  have hp0 : (σ.tst t0).scheduled = false ∧ (σ.tst t0).done = false ∧ (∀ r i, usageOf (σ.led.get r i).usage t0 = none) ∧
      (EffLeaf e t0 → (σ.tst t0).start = (e.taskD t0).start) := ⟨hus0, hnd0, hclean0, hstart0⟩
  have hsame := round_fixed e σ t0
  obtain ⟨h1, h2, h3, h4, h5, h6⟩ := idle_round_pending e wf σ tasks t0 h.inv h.solid h.nodup h.leaf hmem h.inrange
    (fun t ht => (h.pending t ht).2)
  have hown1 : Owned (t0 :: placed) (updateContainers e (scheduleTask e σ t0).1) :=
    closed_round (owned_closed e (t0 :: placed)) wf σ t0 h.inv hlf0 List.mem_cons_self
      (h.owned.mono (fun x hx => List.mem_cons_of_mem _ hx))
  have hreason : ∀ t1 pre t, (e.taskD t).leaf = true → (∀ x ∈ pre, x ∈ placed) →
      Reason e σ t1 pre t → Reason e (updateContainers e (scheduleTask e σ t0).1) t1 pre t :=
    fun t1 pre t htl hpre => Reason.keep
      (by
        by_cases htt : t = t0
        · rw [htt, updateContainers_leaf e _ t0 hlf0, scheduleTask_self_forward]
        · rw [hsame t htt (Or.inl htl)])
      (fun dp _ h2 => by
        rw [hsame dp.target (fun hx => hnp0 (hx ▸ hpre _ h2)) (Or.inl (h.placedLeaf _ (hpre _ h2)))])
  refine ⟨(h.sorted.sublist List.erase_sublist), ?_, ?_, h1, h2, hown1, h3, h4, h5,
    fun t ht => ⟨fun hin => ?_, h6 t ht⟩, ?_, ?_⟩
  · intro t ht
    rcases List.mem_cons.mp ht with h1 | h1
    · rw [h1]; exact hlf0
    · exact h.placedLeaf t h1
  · -- the placement order
    intro post pre t1 hsplit t ht
    cases post with
    | nil =>
      -- t1 = t0 is the task just picked: everything still waiting has a reason
      simp only [List.nil_append, List.cons.injEq] at hsplit
      obtain ⟨h1, h2⟩ := hsplit
      subst h1; subst h2
      rcases ht with ht | ht
      · obtain ⟨htm, hne⟩ := mem_erase_ne h.nodup ht
        exact hreason t0 placed t (h.leaf t htm) (fun x hx => hx) (reason_of_pick e σ tasks placed t0 h.sorted hfind t htm hne)
      · cases ht
    | cons p ps =>
      simp only [List.cons_append, List.cons.injEq] at hsplit
      obtain ⟨h1, h2⟩ := hsplit
      subst h1
      have hpre : ∀ x ∈ pre, x ∈ placed := fun x hx => by rw [h2]; exact List.mem_append_right _ (List.mem_cons_of_mem _ hx)
      rcases ht with ht | ht
      · have htm : t ∈ tasks := List.mem_of_mem_erase ht
        exact hreason t1 pre t (h.leaf t htm) hpre (h.ord ps pre t1 h2 t (Or.inl htm))
      · rcases List.mem_cons.mp ht with h3 | h3
        · rw [h3]
          exact hreason t1 pre t0 hlf0 hpre (h.ord ps pre t1 h2 t0 (Or.inl hmem))
        · have hpl : t ∈ placed := by rw [h2]; exact List.mem_append_left _ h3
          exact hreason t1 pre t (h.placedLeaf t hpl) hpre (h.ord ps pre t1 h2 t (Or.inr h3))
  · rcases List.mem_cons.mp hin with h5' | h5'
    · exact (mem_erase_ne h.nodup ht).2 h5'
    · exact (h.pending t (mem_erase_ne h.nodup ht).1).1 h5'
  · -- predecessors of completed tasks are scheduled
    intro t hlft hd hfw dp hdp
    by_cases heq : t = t0
    · subst heq
      rw [updateContainers_leaf e _ t hlft] at hfw
      rw [scheduleTask_self_forward] at hfw
      have hxs := ready_forward_deps e σ t hfw hready dp hdp
      rw [hsame dp.target (fun hx => by rw [hx, hus0] at hxs; exact Bool.noConfusion hxs) (Or.inr hxs)]
      exact hxs
    · rw [hsame t heq (Or.inl hlft)] at hd hfw
      have hxs := h.deps t hlft hd hfw dp hdp
      rw [hsame dp.target (fun hx => by rw [hx, hus0] at hxs; exact Bool.noConfusion hxs) (Or.inr hxs)]
      exact hxs
  · intro t r hel hd hfw
    by_cases heq : t = t0
    · subst heq
      rw [updateContainers_leaf e _ t hel.el.leaf] at hd hfw
      rw [scheduleTask_self_forward] at hfw
      exact ⟨[], placed, rfl, FitAt.placed wf h.inv h.solid hel.el.leaf hel.el.alloc hel.el.nomile hel.el.effort hel.nostart
        (hel.el.sel _ _) (h.inrange t hmem) hfw hp0 (ready_forward_deps e σ t hfw hready) hel.rleaf h.owned hnp0
        (scheduleTask_done e σ t hnd0 hd)⟩
    · rw [hsame t heq (Or.inl hel.el.leaf)] at hd hfw
      obtain ⟨post, pre, hsplit, hfit⟩ := h.ok t r hel hd hfw
      exact ⟨t0 :: post, pre, by rw [hsplit]; rfl, hfit.round wf t0 h.inv hlf0 heq hus0 (h.deps t hel.el.leaf hd hfw)
        (fun hin => hnp0 (by rw [hsplit]; exact List.mem_append_right _ (List.mem_cons_of_mem _ hin)))⟩

/-- what the pick loop establishes: the earliest-fit statement and the placement order, for the order `placed` and the tasks
    `rest` it never placed -/
def Placement (e : Env) (σ : St) (placed rest : List Nat) : Prop :=
  DoneFit e σ placed ∧ PlaceOrder e σ placed rest ∧ (∀ t ∈ placed, (e.taskD t).leaf = true) ∧ (∀ t ∈ rest, (e.taskD t).leaf = true)

theorem FitInv.placement {e : Env} {σ : St} {tasks placed : List Nat} (h : FitInv e σ tasks placed) :
    Placement e σ placed tasks := ⟨h.ok, h.ord, h.placedLeaf, h.leaf⟩

/-- the order of placement and the reasons read the same after `finishScenario`, which dates containers only -/
theorem Placement.finish {e : Env} {order rest : List Nat} (tr : Tree e)
    (h : Placement e (scheduleScenario e (prepare e (initState e))) order rest) : Placement e (runScenario e) order rest := by
  obtain ⟨h, hord, hpl, hrl⟩ := h
  refine ⟨fun t r hel hdone hfw => ?_, fun post pre t0 hsplit t ht => ?_, hpl, hrl⟩
  · rw [runScenario_leafT e t hel.el.leaf] at hdone hfw
    obtain ⟨post, pre, hsplit, hfit⟩ := h t r hel hdone hfw
    exact ⟨post, pre, hsplit, hfit.finish tr⟩
  · have htl : (e.taskD t).leaf = true := by
      rcases ht with h1 | h1
      · exact hrl t h1
      · exact hpl t (by rw [hsplit]; exact List.mem_append_left _ h1)
    exact (hord post pre t0 hsplit t ht).keep (by rw [runScenario_leafT e t htl]) (fun dp _ h2 => by
      rw [runScenario_leafT e dp.target (hpl _ (by rw [hsplit]; exact List.mem_append_right _ (List.mem_cons_of_mem _ h2)))])

theorem fitInv_start (e : Env) (wf : WF e) : FitInv e (loopStart e) (todoOf e (loopStart e)) [] :=
  ⟨todo_sorted e _, fun t ht => absurd ht List.not_mem_nil, fun post pre t0 hsplit => (by cases post <;> cases hsplit),
   loopStart_inv e wf, solid_loopStart e wf, fun r i x hx => (by rw [loopStart_led] at hx; cases hx), todoOf_nodup e _,
   todoOf_leaf e _, fun t ht => (todoOf_loopStart e t ht).2.1, fun t ht => ⟨List.not_mem_nil, loopStart_pending e t ht⟩,
   fun t _ hd => absurd hd (by rw [loopStart_done]; exact Bool.noConfusion),
   fun t r _ hd => absurd hd (by rw [loopStart_done]; exact Bool.noConfusion)⟩

theorem FitInv.warn {e : Env} {σ : St} {tasks placed : List Nat} (w : List String) (h : FitInv e σ tasks placed) :
    FitInv e { σ with warnings := w } tasks placed :=
  ⟨h.sorted, h.placedLeaf, h.ord, Inv.of_eq (σ := σ) rfl rfl h.inv, ⟨h.solid.room, h.solid.marked⟩, h.owned, h.nodup, h.leaf,
   h.inrange, h.pending, h.deps, h.ok⟩

end SP
