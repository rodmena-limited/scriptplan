import Proofs.NoIdle
import Proofs.Deadline
/-!
The walk lemmas of `Proofs/Visits` and `Proofs/NoIdle` read backward (ALAP): the slots a backward walk visits are
`cursor, cursor − 1, …`, a visited slot is booked for the task iff the gate was open, and in terms of the ledger the walk
leaves: every visited working slot carries an entry unless a limit refuses it.  Then the gap between the slot the backward
walk starts in and the deadline.
-/
namespace SP

/-- the (state, walk) pairs in which `scheduleSlot` is called along a backward walk, in order -/
def walkVisitsB (e : Env) (t : Nat) : Nat → St → Walk → List (St × Walk)
  | 0, _, _ => []
  | f + 1, σ, w =>
    (σ, w) :: (if !(scheduleSlot e σ t w).2.2 then []
      else if (advance false w (scheduleSlot e σ t w).2.1).cur < 0 || (advance false w (scheduleSlot e σ t w).2.1).cur > e.upper then []
      else walkVisitsB e t f (scheduleSlot e σ t w).1 (advance false w (scheduleSlot e σ t w).2.1))

theorem walkVisitsB_eq (e : Env) (t : Nat) (fuel : Nat) (σ : St) (w : Walk) :
    walkVisitsB e t fuel σ w = visits e t false fuel σ w := by
  induction fuel generalizing σ w with
  | zero => rfl
  | succ f ih => rw [walkVisitsB, visits, ih]

/-- **none skipped**: the k-th visit is at slot `cursor − k` -/
theorem walkVisitsB_consecutive (e : Env) (t : Nat) (fuel : Nat) (σ : St) (w : Walk) (k : Nat)
    (hk : k < (walkVisitsB e t fuel σ w).length) : ((walkVisitsB e t fuel σ w)[k]).2.cur = w.cur - k := by
  simp only [walkVisitsB_eq] at hk ⊢
  rw [visits_consecutive e t false fuel σ w k hk]
  simp
  omega

theorem walkLoop_after (e : Env) (t : Nat) (fuel : Nat) (σ : St) (w : Walk) (r' : Nat) (i' : Int) (h : w.cur < i') :
    (walkLoop e t false fuel σ w).1.led.get r' i' = σ.led.get r' i' := by
  apply walk_unvisited
  intro p hp
  obtain ⟨k, hk, rfl⟩ := List.getElem_of_mem hp
  rw [visits_consecutive e t false fuel σ w k hk]
  simp
  omega

/-- **no eligible slot left idle, backward**: along the backward walk of a single-resource task that finishes, every visited
    slot ends up carrying an entry of the task exactly when its gate was open at the moment of the visit -/
theorem walkLoopB_no_idle (e : Env) (wf : WF e) (t r : Nat) (fuel : Nat) (σ : St) (w : Walk) (vis : List Int)
    (hinv : Inv e σ) (hlf : (e.taskD t).leaf = true) (hw : WalkOk e t w)
    (ha : (e.taskD t).hasAlloc = true) (hm : (e.taskD t).milestone = false)
    (hsel : selectedOf e σ t w = [r]) (hlt : w.done < (e.taskD t).effort) (hpos : 0 < (e.taskD t).effort)
    (h : Acc e σ t r false w vis) (hok : (walkLoop e t false fuel σ w).2.2 = true) :
    ∀ p ∈ walkVisitsB e t fuel σ w,
      (usageOf ((walkLoop e t false fuel σ w).1.led.get r p.2.cur).usage t ≠ none ↔ gate e p.1 t p.2 r = true) := by
  rw [walkVisitsB_eq]
  exact walk_no_idle e wf t r false fuel σ w vis hinv hlf hw ha hm hsel hlt hpos h

/-- **one backward task, in terms of the ledger**: a successful `scheduleTask` of a backward effort task whose selection is `[r]` in every
    state leaves, between ANY slot `L` it is booked in and the slot its walk started in, no working slot of `r` without an
    entry — unless a limit refuses that slot -/
theorem scheduleTaskB_no_idle_interval (e : Env) (wf : WF e) (σ : St) (t r : Nat)
    (hinv : Inv e σ) (hs : Solid e σ) (hel : Elig e t r) (hf : (σ.tst t).forward = false)
    (hnd : (σ.tst t).done = false) (hclean : ∀ i, usageOf (σ.led.get r i).usage t = none)
    (hleaf : (e.resD r).leaf = true)
    (hok : (scheduleTask e σ t).2 = true) :
    ∀ L, usageOf ((scheduleTask e σ t).1.led.get r L).usage t ≠ none →
      ∀ i, L ≤ i → i ≤ (initCursor e σ t).1 → e.onShift r i = true → e.leaveMark r i = false →
        Has r i (scheduleTask e σ t).1 ∨ Exhausted e (scheduleTask e σ t).1 t r i := by
  intro L hL i hLi hic
  exact scheduleTask_no_idle_between e wf σ t r hinv hs hel.leaf hel.alloc hel.nomile hel.effort (hel.sel _ _) hnd hclean
    hleaf hok L hL i (by rw [hf, if_neg Bool.false_ne_true]; exact ⟨hLi, hic⟩)

/-- `backToWork` only skips slots in which `p` is false -/
theorem backToWork_skips (e : Env) (p : Int → Bool) (fuel : Nat) (c0 : Int) :
    backToWork e p fuel c0 ≤ c0 ∧ ∀ j, backToWork e p fuel c0 < j → j ≤ c0 → p j = false := by
  induction fuel generalizing c0 with
  | zero => exact ⟨Int.le_refl _, by intro j h1 h2; simp [backToWork] at h1; omega⟩
  | succ f ih =>
    unfold backToWork
    split
    · rename_i hc
      simp only [Bool.and_eq_true, decide_eq_true_eq, Bool.not_eq_true'] at hc
      have := ih (c0 - 1)
      refine ⟨by omega, ?_⟩
      intro j h1 h2
      by_cases hj : j = c0
      · rw [hj]; exact hc.2
      · exact this.2 j h1 (by omega)
    · exact ⟨Int.le_refl _, by intro j h1 h2; omega⟩

/-- between the slot the backward walk starts in and the deadline the resource is not on shift -/
theorem initCursor_back_gap (e : Env) (σ : St) (t r : Nat) (hf : (σ.tst t).forward = false)
    (hpos : 0 < (e.taskD t).effort) (ha : (e.taskD t).hasAlloc = true) (hr : r ∈ (e.taskD t).alloc ++ (e.taskD t).alt) :
    ∀ j, (initCursor e σ t).1 < j → j ≤ e.idx (deadlineOf e σ t) - 1 → e.onShift r j = false := by
  intro j h1 h2
  have hc : (decide ((e.taskD t).effort > 0) && (e.taskD t).hasAlloc) = true := by simp [hpos, ha]
  have key : ∀ x : Int, (initCursor e σ t).1 = backToWork e (anyOnShift e t) (e.size.toNat + 2) (e.idx x - 1) →
      (initCursor e σ t).1 < j → j ≤ e.idx x - 1 → e.onShift r j = false := by
    intro x hx h1' h2'
    rw [hx] at h1'
    have := (backToWork_skips e (anyOnShift e t) _ _).2 j h1' h2'
    unfold anyOnShift at this
    simp only [List.any_eq_false] at this
    have := this r hr
    simpa using this
  unfold deadlineOf at h2
  cases hstop : (σ.tst t).stop with
  | some x =>
    rw [hstop] at h2
    apply key x _ h1 h2
    unfold initCursor
    simp only [hf, Bool.false_eq_true, if_false, hstop, hc, if_true]
  | none =>
    rw [hstop] at h2
    apply key (latestEnd e σ t) _ h1 h2
    unfold initCursor
    simp only [hf, Bool.false_eq_true, if_false, hstop, hc, if_true]

/-- for a backward task the interval of `scheduleTask_no_idle_between` reaches up to the deadline -/
theorem scheduleTaskB_no_idle_deadline_sel (e : Env) (wf : WF e) (σ : St) (t r : Nat)
    (hinv : Inv e σ) (hs : Solid e σ) (hlf : (e.taskD t).leaf = true) (hal : (e.taskD t).hasAlloc = true)
    (hnm : (e.taskD t).milestone = false) (hpos : 0 < (e.taskD t).effort)
    (hsel1 : selectedOf e (walkStart e σ t).1 t (walkStart e σ t).2 = [r])
    (hf : (σ.tst t).forward = false)
    (hnd : (σ.tst t).done = false) (hclean : ∀ i, usageOf (σ.led.get r i).usage t = none)
    (hleaf : (e.resD r).leaf = true) (hr : r ∈ (e.taskD t).alloc ++ (e.taskD t).alt)
    (hok : (scheduleTask e σ t).2 = true) :
    ∀ L, usageOf ((scheduleTask e σ t).1.led.get r L).usage t ≠ none →
      ∀ i, L ≤ i → i ≤ e.idx (deadlineOf e σ t) - 1 → e.onShift r i = true → e.leaveMark r i = false →
        Has r i (scheduleTask e σ t).1 ∨ Exhausted e (scheduleTask e σ t).1 t r i := by
  intro L hL i hLi hid hon hnl
  by_cases hic : i ≤ (initCursor e σ t).1
  · exact scheduleTask_no_idle_between e wf σ t r hinv hs hlf hal hnm hpos hsel1 hnd hclean hleaf hok L hL i
      (by rw [hf, if_neg Bool.false_ne_true]; exact ⟨hLi, hic⟩) hon hnl
  · rw [initCursor_back_gap e σ t r hf hpos hal hr i (by omega) hid] at hon
    exact Bool.noConfusion hon

end SP
