import Proofs.TeamFit
import Proofs.NoIdleAlt
/-!
C07 for tasks with an alternative: on the candidate chosen at the first slot the task takes the earliest slots not held by
tasks placed before it.  `FitInvA` contains the invariants for single resources (`FitInv`) and teams (`FitInvT`), so the
induction over the loop is done here, once, and gives the three end-to-end statements for one and the same order of placement
(`runScenario_placement_nodup` and its projections).
-/
namespace SP

def DoneFitAlt (e : Env) (σ : St) (placed : List Nat) : Prop :=
  ∀ t r1 r2, EligAltU e t r1 r2 → (σ.tst t).done = true → (σ.tst t).forward = true →
    ∃ post pre, placed = post ++ t :: pre ∧
      ∃ r, (r = r1 ∨ r = r2) ∧ (∃ L, usageOf (σ.led.get r L).usage t ≠ none) ∧ FitAt e σ t r pre

structure FitInvA (e : Env) (σ : St) (tasks placed : List Nat) : Prop where
  baseT : FitInvT e σ tasks placed
  okA : DoneFitAlt e σ placed

theorem fitInvA_step (e : Env) (wf : WF e) (σ : St) (tasks placed : List Nat) (t0 : Nat) (h : FitInvA e σ tasks placed)
    (hfind : tasks.find? (fun t => ready e σ t) = some t0) :
    FitInvA e (updateContainers e (scheduleTask e σ t0).1) (tasks.erase t0) (t0 :: placed) := by
  refine ⟨fitInvT_step e wf σ tasks placed t0 h.baseT hfind, fun t r1 r2 hel hd hfw => ?_⟩
  have hbase := h.baseT.base
  have hmem : t0 ∈ tasks := List.mem_of_find?_eq_some hfind
  have hready : ready e σ t0 = true := by simpa using List.find?_some hfind
  obtain ⟨hnp0, hp0⟩ := hbase.pending t0 hmem
  by_cases heq : t = t0
  · subst heq
    rw [updateContainers_leaf e _ t hel.el.leaf] at hd hfw
    rw [scheduleTask_self_forward] at hfw
    have hok := scheduleTask_done e σ t hp0.2.1 hd
    obtain ⟨r, hr, hrl, hsel1⟩ := hel.chosen (σ.setT t (σ.tst t)) (initCursor e σ t).1
    exact ⟨[], placed, rfl, r, hr,
      placed_booked e wf σ t r hbase.inv hel.el.leaf hel.el.alloc hel.el.nomile hel.el.effort hsel1 (hbase.inrange t hmem) hfw
        hp0.2.1 (hp0.2.2.1 r) hok,
      FitAt.placed wf hbase.inv hbase.solid hel.el.leaf hel.el.alloc hel.el.nomile hel.el.effort hel.nostart hsel1
        (hbase.inrange t hmem) hfw hp0 (ready_forward_deps e σ t hfw hready) hrl hbase.owned hnp0 hok⟩
  · rw [round_fixed e σ t0 t heq (Or.inl hel.el.leaf)] at hd hfw
    obtain ⟨post, pre, hsplit, r, hr, ⟨L0, hL0⟩, hfit⟩ := h.okA t r1 r2 hel hd hfw
    exact ⟨t0 :: post, pre, by rw [hsplit]; rfl, r, hr,
      ⟨L0, by rw [updateContainers_led, scheduleTask_same e σ t0 t (Ne.symm heq) r L0]; exact hL0⟩,
      hfit.round wf t0 hbase.inv (hbase.leaf t0 hmem) heq hp0.1 (hbase.deps t hel.el.leaf hd hfw)
        (fun hin => hnp0 (by rw [hsplit]; exact List.mem_append_right _ (List.mem_cons_of_mem _ hin)))⟩

/-- the three statements about the order of placement, by one induction over the loop; the order is a list in which no task
    occurs twice — only then does "`pre`, the tasks placed before `t`" exclude the tasks placed after it -/
theorem runScenario_placement_nodup (e : Env) (wf : WF e) (tr : Tree e) :
    ∃ order rest, order.Nodup ∧ Placement e (runScenario e) order rest ∧ DoneFitT e (runScenario e) order ∧
      DoneFitAlt e (runScenario e) order := by
  obtain ⟨rest, order, hnd, h⟩ := scenario_induct_nodup (I := fun tasks placed σ => FitInvA e σ tasks placed)
    (fun tasks placed σ t0 h hf => fitInvA_step e wf σ tasks placed t0 h hf)
    (fun _ _ _ w h => ⟨⟨h.baseT.base.warn w, h.baseT.okT⟩, h.okA⟩)
    ⟨⟨fitInv_start e wf, fun t sel _ hd => absurd hd (by rw [loopStart_done]; exact Bool.noConfusion)⟩,
     fun t r1 r2 _ hd => absurd hd (by rw [loopStart_done]; exact Bool.noConfusion)⟩
  refine ⟨order, rest, hnd, h.baseT.base.placement.finish tr, h.baseT.okT.finish tr, fun t r1 r2 hel hdone hfw => ?_⟩
  rw [runScenario_leafT e t hel.el.leaf] at hdone hfw
  obtain ⟨post, pre, hsplit, r, hr, ⟨L0, hL0⟩, hfit⟩ := h.okA t r1 r2 hel hdone hfw
  exact ⟨post, pre, hsplit, r, hr, ⟨L0, by unfold runScenario; rw [finishScenario_led]; exact hL0⟩, hfit.finish tr⟩

/-- **C07 with an alternative, end to end**, with one placement order for single-resource tasks, unlimited teams and tasks with
    an alternative: there are an order of placement and a list of tasks never placed such that the list-schedule statement
    (`Placement`) and the team statement (`DoneFitT`) hold for it, and every completed forward effort task `t` without a start
    of its own with one primary and one alternative resource (both leaves) occurs in the order, is booked on ONE of its two
    candidates, and on that one, between the slot of its dependency bound and any slot in which it is booked, every working slot
    carries `t` itself, or a task placed BEFORE `t`, or is refused by a limit. -/
theorem runScenario_placementA (e : Env) (wf : WF e) (tr : Tree e) :
    ∃ order rest, Placement e (runScenario e) order rest ∧ DoneFitT e (runScenario e) order ∧
      DoneFitAlt e (runScenario e) order := by
  obtain ⟨order, rest, _, h⟩ := runScenario_placement_nodup e wf tr
  exact ⟨order, rest, h⟩

/-- **C07 / C08 for teams, end to end**, with the same placement order as `runScenario_placement`: every completed
    forward team task (several pairwise different leaf resources, no start of its own; limits allowed) occurs
    in the order, and between the slot of its dependency bound and any slot in which it is booked, every slot in which ALL its
    members are on shift and not on leave carries the task on every member, or some member carries there a task placed before,
    or some limit of a member or of the task has no room left there for the whole team (`TeamTight`). -/
theorem runScenario_placementT (e : Env) (wf : WF e) (tr : Tree e) :
    ∃ order rest, Placement e (runScenario e) order rest ∧ DoneFitT e (runScenario e) order := by
  obtain ⟨order, rest, hp, hT, _⟩ := runScenario_placementA e wf tr
  exact ⟨order, rest, hp, hT⟩

/-- **C07, end to end: a list schedule in priority order.**  After scheduling any well-formed project there are an order of
    placement `order` (latest first) and a list `rest` of tasks never placed such that
    (earliest fit) every completed forward effort task `t` without a start of its own with a single selected leaf resource `r`
    occurs in `order`, and between the slot of its dependency bound (from the final dates of its predecessors) and any slot in
    which it is booked, every slot in which `r` is on shift and not on leave carries `t` itself, or a task placed BEFORE `t`, or
    is refused by a limit; and
    (priority) whenever `t0` was placed and `t` was placed later or never, then `t0` ranks at or before `t` in the priority
    order (priority descending, ties in declaration order), or `t` is not in forward mode, or one of `t`'s predecessors is a
    container, or had not been placed when `t0` was picked, or had been placed and could not be scheduled. -/
theorem runScenario_placement (e : Env) (wf : WF e) (tr : Tree e) : ∃ order rest, Placement e (runScenario e) order rest := by
  obtain ⟨order, rest, hp, _⟩ := runScenario_placementA e wf tr
  exact ⟨order, rest, hp⟩

/-- the earliest-fit half alone -/
theorem runScenario_doneFit (e : Env) (wf : WF e) (tr : Tree e) : ∃ order, DoneFit e (runScenario e) order := by
  obtain ⟨order, _, h, _⟩ := runScenario_placement e wf tr
  exact ⟨order, h⟩

end SP
