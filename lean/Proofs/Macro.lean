import Model.Macro
/-!
Macro expansion (`Model/Macro`, C15).  `segments` splits a text at its macro calls; a closed prefix and a text without `$`
pass through `expandOnce` unchanged, so one call of a plain macro is replaced by its body (`expandLoop_inline`).  The
bounded pass is the plain pass plus a length test, hence its output is the input or within the bound
(`expandLoop_bounded`), while the unbounded expander doubles `macro a [${a} ${a}]` at every pass (`expandLoop_blow`).
`extract_defText`: a printed definition is read back by `extractMacros`; `stripGo_idem`: stripping comments twice is
stripping them once.
-/
namespace SP.Macro

/-- scanning the output again, the scanner is in the same state at corresponding positions -/
theorem stripGo_idem (l : List Char) :
    stripGo .normal (stripGo .normal l) = stripGo .normal l ∧
    (∀ q, stripGo (.str q) (stripGo (.str q) l) = stripGo (.str q) l) ∧
    stripGo .normal (stripGo .comment l) = stripGo .comment l := by
  induction l with
  | nil => simp [stripGo]
  | cons c cs ih =>
    obtain ⟨ihn, ihs, ihc⟩ := ih
    refine ⟨?_, ?_, ?_⟩
    · simp only [stripGo]
      by_cases h1 : c = '"' ∨ c = '\''
      · simp only [h1, if_true, stripGo, ihs]
      · by_cases h2 : c = '#'
        · simp only [h2, if_true]
          simpa [h2] using ihc
        · simp only [h1, h2, if_false, stripGo, ihn]
    · intro q
      simp only [stripGo]
      by_cases h : c = q
      · simp only [h, if_true, stripGo, ihn]
      · simp only [h, if_false, stripGo, ihs]
    · simp only [stripGo]
      by_cases h : c = '\n'
      · subst h
        simp only [if_true, stripGo]
        have h1 : ¬ ('\n' = '"' ∨ '\n' = '\'') := by decide
        have h2 : ¬ ('\n' = '#') := by decide
        simp only [h1, h2, if_false, ihn]
      · simp only [h, if_false, ihc]

theorem scanClose_cons (o c : Char) (d : Nat) (x : Char) (xs : List Char) :
    scanClose o c d (x :: xs) =
      if x ≠ o ∧ x = c ∧ d ≤ 1 then some ([], xs)
      else (scanClose o c (if x = o then d + 1 else if x = c then d - 1 else d) xs).map (fun p => (x :: p.1, p.2)) := by
  rw [scanClose]
  by_cases h1 : x = o
  · simp [h1]
  · by_cases h2 : x = c
    · subst h2
      by_cases h3 : d ≤ 1 <;> simp [h1, h3]
    · simp [h1, h2]

theorem scanClose_some (o c : Char) (d : Nat) (t inner rest : List Char)
    (h : scanClose o c d t = some (inner, rest)) :
    t = inner ++ c :: rest ∧ ∀ y, scanClose o c d (t ++ y) = some (inner, rest ++ y) := by
  induction t generalizing d inner rest with
  | nil => simp [scanClose] at h
  | cons x xs ih =>
    rw [scanClose_cons] at h
    split at h
    · next hs =>
      cases h
      exact ⟨by rw [hs.2.1]; rfl, fun y => by rw [List.cons_append, scanClose_cons, if_pos hs]⟩
    · next hs =>
      obtain ⟨p, hp, he⟩ := Option.map_eq_some_iff.mp h
      cases he
      obtain ⟨e, happ⟩ := ih _ _ _ hp
      exact ⟨by rw [e]; rfl, fun y => by rw [List.cons_append, scanClose_cons, if_neg hs, happ y]; rfl⟩

theorem scanClose_plain (o c : Char) (hoc : c ≠ o) (m v : List Char) (hm : ∀ x ∈ m, x ≠ o ∧ x ≠ c) :
    scanClose o c 1 (m ++ c :: v) = some (m, v) := by
  induction m with
  | nil => simp [scanClose, hoc]
  | cons x xs ih =>
    have hx := hm x (by simp)
    simp only [List.cons_append, scanClose, hx.1, hx.2, if_false]
    rw [ih (fun y hy => hm y (by simp [hy]))]
    rfl

/-- the skip counters `cs.length - rest.length` of the index loops: what is left is `rest` -/
theorem drop_length_sub {α : Type} (x rest : List α) : (x ++ rest).drop ((x ++ rest).length - rest.length) = rest := by
  rw [List.length_append, Nat.add_sub_cancel, List.drop_left]

theorem segGo_skip (k : Nat) (s : List Char) : segGo k s = segGo 0 (s.drop k) := by
  induction k generalizing s with
  | zero => simp
  | succ k ih =>
    cases s with
    | nil => simp [segGo]
    | cons c cs => simp [segGo, ih cs]

@[simp] theorem segments_nil : segments [] = [] := by simp [segments, segGo]

theorem segments_dollar_brace (t : List Char) :
    segments ('$' :: '{' :: t) =
      match scanClose '{' '}' 1 t with
      | some (inner, rest) => .call inner :: segments rest
      | none => .unmatched :: segments ('{' :: t) := by
  simp only [segments, segGo, if_true]
  cases h : scanClose '{' '}' 1 t with
  | none => rfl
  | some p =>
    obtain ⟨inner, rest⟩ := p
    obtain rfl := (scanClose_some _ _ _ _ _ _ h).1
    have e : '{' :: (inner ++ '}' :: rest) = ('{' :: inner ++ ['}']) ++ rest := by simp
    simp only
    rw [segGo_skip, e, drop_length_sub]

theorem segments_plain (c : Char) (cs : List Char) (h : c ≠ '$' ∨ cs.head? ≠ some '{') :
    segments (c :: cs) = .plain c :: segments cs := by
  simp only [segments, segGo]
  by_cases hc : c = '$'
  · subst hc
    simp only [if_true]
    cases cs with
    | nil => rfl
    | cons d ds =>
      have hd : d ≠ '{' := by
        rcases h with h | h
        · exact absurd rfl h
        · simpa using h
      split
      · next t heq => cases heq; exact absurd rfl hd
      · rfl
  · simp [hc]

/-! ### a pass treats a closed prefix separately -/

theorem getLast?_append_ne (a b : List Char) (h : b ≠ []) : (a ++ b).getLast? = b.getLast? := by
  rw [List.getLast?_append]
  cases b with
  | nil => exact absurd rfl h
  | cons x xs =>
    cases hx : (x :: xs).getLast? with
    | none => simp at hx
    | some v => rfl

theorem closed_iff (x : List Char) :
    Closed x = true ↔ Seg.unmatched ∉ segments x ∧ x.getLast? ≠ some '$' := by
  simp [Closed]

theorem segments_append_aux (n : Nat) :
    ∀ x : List Char, x.length ≤ n → Closed x = true → ∀ y, segments (x ++ y) = segments x ++ segments y := by
  induction n with
  | zero =>
    intro x hx _ y
    have : x = [] := List.length_eq_zero_iff.mp (by omega)
    subst this; simp
  | succ n ih =>
    intro x hx hc y
    cases x with
    | nil => simp
    | cons c cs =>
      rw [closed_iff] at hc
      obtain ⟨hun, hlast⟩ := hc
      by_cases hcall : c = '$' ∧ cs.head? = some '{'
      · obtain ⟨rfl, hhead⟩ := hcall
        cases cs with
        | nil => simp at hhead
        | cons d t =>
          simp only [List.head?_cons, Option.some.injEq] at hhead
          subst hhead
          rw [segments_dollar_brace] at hun ⊢
          cases hs : scanClose '{' '}' 1 t with
          | none => simp [hs] at hun
          | some p =>
            obtain ⟨inner, rest⟩ := p
            have hsplit := (scanClose_some _ _ _ _ _ _ hs).1
            simp only [hs, List.mem_cons, not_or] at hun
            have happ := (scanClose_some '{' '}' 1 t inner rest hs).2 y
            have e : '$' :: '{' :: t ++ y = '$' :: '{' :: (t ++ y) := by simp
            rw [e, segments_dollar_brace, happ]
            simp only [List.cons_append, List.cons.injEq, true_and]
            apply ih rest
            · subst hsplit; simp at hx ⊢; omega
            · rw [closed_iff]
              refine ⟨hun.2, ?_⟩
              intro hl
              apply hlast
              subst hsplit
              cases rest with
              | nil => simp at hl
              | cons r rs =>
                have : '$' :: '{' :: (inner ++ '}' :: r :: rs) = ('$' :: '{' :: inner ++ ['}']) ++ (r :: rs) := by simp
                rw [this, getLast?_append_ne _ _ (by simp)]
                exact hl
      · have hp : c ≠ '$' ∨ cs.head? ≠ some '{' := by
          by_cases h1 : c = '$'
          · right; intro h2; exact hcall ⟨h1, h2⟩
          · left; exact h1
        rw [segments_plain c cs hp] at hun ⊢
        simp only [List.mem_cons, not_or] at hun
        have hp' : c ≠ '$' ∨ (cs ++ y).head? ≠ some '{' := by
          rcases hp with h | h
          · left; exact h
          · by_cases h1 : c = '$'
            · right
              cases cs with
              | nil => subst h1; simp at hlast
              | cons d ds => simpa using h
            · left; exact h1
        rw [List.cons_append, segments_plain c (cs ++ y) hp']
        simp only [List.cons_append, List.cons.injEq, true_and]
        apply ih cs (by simp at hx; omega)
        rw [closed_iff]
        refine ⟨hun.2, ?_⟩
        intro hl
        apply hlast
        cases cs with
        | nil => simp at hl
        | cons d ds =>
          rw [List.getLast?_cons_cons]
          exact hl

theorem segments_append (x y : List Char) (h : Closed x = true) :
    segments (x ++ y) = segments x ++ segments y :=
  segments_append_aux x.length x (Nat.le_refl _) h y

theorem segments_of_no_dollar (b v : List Char) (hb : ∀ x ∈ b, x ≠ '$') :
    segments (b ++ v) = b.map Seg.plain ++ segments v := by
  induction b with
  | nil => simp
  | cons c cs ih =>
    have hc : c ≠ '$' := hb c (by simp)
    rw [List.cons_append, segments_plain c (cs ++ v) (Or.inl hc), ih (fun x hx => hb x (by simp [hx]))]
    simp

theorem closed_of_no_dollar (b : List Char) (hb : ∀ x ∈ b, x ≠ '$') : Closed b = true := by
  rw [closed_iff]
  have := segments_of_no_dollar b [] hb
  simp only [List.append_nil, segments_nil] at this
  refine ⟨by simp [this], ?_⟩
  intro h
  exact hb '$' (List.mem_of_getLast? h) rfl

theorem flatMap_render_plain (E : Env) (b : List Char) : (b.map Seg.plain).flatMap (Seg.render E) = b := by
  induction b with
  | nil => rfl
  | cons c cs ih => simp [List.flatMap_cons, Seg.render, ih]

theorem expandOnce_append (E : Env) (x y : List Char) (h : Closed x = true) :
    expandOnce E (x ++ y) = expandOnce E x ++ expandOnce E y := by
  simp [expandOnce, segments_append x y h]

theorem expandOnce_no_dollar (E : Env) (b v : List Char) (hb : ∀ x ∈ b, x ≠ '$') :
    expandOnce E (b ++ v) = b ++ expandOnce E v := by
  simp [expandOnce, segments_of_no_dollar b v hb, flatMap_render_plain]

theorem expandOnce_call (E : Env) (m v : List Char) (hm : ∀ x ∈ m, x ≠ '{' ∧ x ≠ '}') :
    expandOnce E ('$' :: '{' :: (m ++ '}' :: v)) = expandCall E (strip m) ++ expandOnce E v := by
  simp only [expandOnce]
  rw [segments_dollar_brace, scanClose_plain '{' '}' (by decide) m v hm]
  simp [List.flatMap_cons, Seg.render]

theorem hasCall_false_no_call (s : List Char) (h : hasCall s = false) :
    segments s = s.map Seg.plain := by
  induction s with
  | nil => simp
  | cons c cs ih =>
    cases cs with
    | nil =>
      rw [segments_plain c [] (Or.inr (by simp))]; simp
    | cons d ds =>
      simp only [hasCall, Bool.or_eq_false_iff, Bool.and_eq_false_iff, beq_eq_false_iff_ne] at h
      have hp : c ≠ '$' ∨ (d :: ds).head? ≠ some '{' := by
        rcases h.1 with h1 | h1
        · exact Or.inl h1
        · exact Or.inr (by simpa using h1)
      rw [segments_plain c (d :: ds) hp, ih h.2]
      simp

theorem expandOnce_of_not_hasCall (E : Env) (s : List Char) (h : hasCall s = false) : expandOnce E s = s := by
  simp [expandOnce, hasCall_false_no_call s h, flatMap_render_plain]

theorem hasCall_append_call (u w : List Char) : hasCall (u ++ '$' :: '{' :: w) = true := by
  induction u with
  | nil => simp [hasCall]
  | cons c cs ih =>
    cases cs with
    | nil => simp [hasCall]
    | cons d ds =>
      simp only [List.cons_append, hasCall, Bool.or_eq_true]
      right
      simpa using ih

/-! ### the bounded pass = the plain pass + a length test -/

theorem renderB_none (E : Env) (segs : List Seg) (acc : List Char) :
    renderB E none segs acc = some (acc.reverse ++ segs.flatMap (Seg.render E)) := by
  induction segs generalizing acc with
  | nil => simp [renderB]
  | cons sg ss ih =>
    cases sg <;> simp [renderB, ih, List.flatMap_cons, Seg.render]

theorem ite_none_congr {γ : Type} (P Q : Prop) [Decidable P] [Decidable Q] (a b : Option γ)
    (hpq : P ↔ Q) (hab : a = b) : (if P then a else none) = (if Q then b else none) := by
  subst hab
  by_cases h : P
  · simp [h, hpq.mp h]
  · have : ¬ Q := fun q => h (hpq.mpr q)
    simp [h, this]

theorem renderB_some (E : Env) (n : Nat) (segs : List Seg) (acc : List Char) :
    renderB E (some n) segs acc =
      if acc.length + (segs.flatMap (Seg.render E)).length ≤ n
      then some (acc.reverse ++ segs.flatMap (Seg.render E)) else none := by
  induction segs generalizing acc with
  | nil =>
    simp only [renderB, List.flatMap_nil, List.length_nil, Nat.add_zero, List.append_nil]
    by_cases h : acc.length > n
    · have : ¬ acc.length ≤ n := by omega
      simp [h, this]
    · have : acc.length ≤ n := by omega
      simp [h, this]
  | cons sg ss ih =>
    -- the test after a call only raises earlier what the end of the pass would raise anyway
    have step : renderB E (some n) (sg :: ss) acc = renderB E (some n) ss ((sg.render E).reverse ++ acc) := by
      cases sg with
      | call inner =>
        simp only [renderB, Seg.render]
        split
        · next h =>
          rw [ih, if_neg]
          omega
        · rfl
      | plain c => simp only [renderB]
      | unmatched => simp only [renderB]
    rw [step, ih, List.flatMap_cons]
    apply ite_none_congr
    · simp only [List.length_append, List.length_reverse]
      omega
    · simp

theorem expandOnceB_none (E : Env) (s : List Char) : expandOnceB E none s = some (expandOnce E s) := by
  simp [expandOnceB, expandOnce, renderB_none]

theorem expandOnceB_some (E : Env) (n : Nat) (s : List Char) :
    expandOnceB E (some n) s = if (expandOnce E s).length ≤ n then some (expandOnce E s) else none := by
  simp [expandOnceB, expandOnce, renderB_some]

theorem expandOnceB_congr (E : Env) (cap : Option Nat) (s t : List Char) (h : expandOnce E s = expandOnce E t) :
    expandOnceB E cap s = expandOnceB E cap t := by
  cases cap with
  | none => simp [expandOnceB_none, h]
  | some n => simp [expandOnceB_some, h]

theorem dropWhile_eq_self_of_head (p : Char → Bool) (l : List Char) (h : ∀ x, l.head? = some x → p x = false) :
    l.dropWhile p = l := by
  cases l with
  | nil => rfl
  | cons c cs => simp [List.dropWhile, h c rfl]

theorem strip_of_no_space (m : List Char) (hm : ∀ x ∈ m, isSpace x = false) : strip m = m := by
  unfold strip
  rw [dropWhile_eq_self_of_head isSpace m (fun x hx => hm x (List.mem_of_mem_head? hx))]
  rw [dropWhile_eq_self_of_head isSpace m.reverse
    (fun x hx => hm x (List.mem_reverse.mp (List.mem_of_mem_head? hx)))]
  simp

theorem splitWsGo_of_no_space (m cur : List Char) (hm : ∀ x ∈ m, isSpace x = false) :
    splitWsGo cur m = if (m.reverse ++ cur).isEmpty then [] else [(m.reverse ++ cur).reverse] := by
  induction m generalizing cur with
  | nil => simp [splitWsGo]
  | cons c cs ih =>
    have hc : isSpace c = false := hm c (by simp)
    simp only [splitWsGo, hc, Bool.false_eq_true, if_false]
    rw [ih (c :: cur) (fun x hx => hm x (by simp [hx]))]
    simp

theorem splitWs_of_plainName (m : List Char) (h : PlainName m) : splitWs m = [m] := by
  obtain ⟨hne, hm⟩ := h
  unfold splitWs
  rw [splitWsGo_of_no_space m [] (fun x hx => (hm x hx).1)]
  simp [hne]

theorem expandCall_plainName (E : Env) (m body : List Char) (h : PlainName m)
    (hb : m ∉ builtinNames) (hl : lookup E.defs m = some body) : expandCall E (strip m) = body := by
  rw [strip_of_no_space m (fun x hx => (h.2 x hx).1)]
  unfold expandCall
  rw [splitWs_of_plainName m h]
  simp only [builtinNames, List.mem_cons, List.not_mem_nil, or_false, not_or] at hb
  simp only [if_neg hb.1, if_neg hb.2.1, if_neg hb.2.2.1, if_neg hb.2.2.2, hl, substArgs]

theorem expandLoop_of_not_hasCall (E : Env) (cap : Option Nat) (n : Nat) (s : List Char) (h : hasCall s = false) :
    expandLoop E cap n s = .ok s := by
  cases n <;> simp [expandLoop, h]

theorem expandOnce_inline (E : Env) (u m body v : List Char) (hu : Closed u = true) (hm : PlainName m)
    (hb : m ∉ builtinNames) (hl : lookup E.defs m = some body) (hbody : ∀ x ∈ body, x ≠ '$') :
    expandOnce E (u ++ '$' :: '{' :: (m ++ '}' :: v)) = expandOnce E (u ++ (body ++ v)) := by
  rw [expandOnce_append E u _ hu, expandOnce_append E u _ hu,
    expandOnce_call E m v (fun x hx => (hm.2 x hx).2), expandCall_plainName E m body hm hb hl,
    expandOnce_no_dollar E body v hbody]

theorem expandLoop_inline (E : Env) (cap : Option Nat) (u m body v : List Char) (hu : Closed u = true)
    (hm : PlainName m) (hb : m ∉ builtinNames) (hl : lookup E.defs m = some body)
    (hbody : ∀ x ∈ body, x ≠ '$') (hcap : ∀ k, cap = some k → (u ++ (body ++ v)).length ≤ k)
    (n : Nat) :
    expandLoop E cap (n + 1) (u ++ '$' :: '{' :: (m ++ '}' :: v)) = expandLoop E cap (n + 1) (u ++ (body ++ v)) := by
  have hpass := expandOnce_inline E u m body v hu hm hb hl hbody
  have hB := expandOnceB_congr E cap _ _ hpass
  simp only [expandLoop, hasCall_append_call, if_true, hB]
  by_cases hc : hasCall (u ++ (body ++ v)) = true
  · simp [hc]
  · have hc' : hasCall (u ++ (body ++ v)) = false := by simpa using hc
    have hid := expandOnce_of_not_hasCall E _ hc'
    have : expandOnceB E cap (u ++ (body ++ v)) = some (u ++ (body ++ v)) := by
      cases cap with
      | none => simp [expandOnceB_none, hid]
      | some k =>
        have hk := hcap k rfl
        rw [expandOnceB_some, hid, if_pos hk]
    simp only [hc', this, Bool.false_eq_true, if_false]
    exact expandLoop_of_not_hasCall E cap n _ hc'

theorem expandOnceB_le (E : Env) (k : Nat) (s out : List Char) (h : expandOnceB E (some k) s = some out) :
    out.length ≤ k := by
  rw [expandOnceB_some] at h
  by_cases hl : (expandOnce E s).length ≤ k
  · simp only [hl, if_true, Option.some.injEq] at h; exact h ▸ hl
  · simp [hl] at h

theorem expandTrace_bounded (E : Env) (k n : Nat) (s : List Char) :
    (expandTrace E (some k) n s).length ≤ n ∧ ∀ c ∈ expandTrace E (some k) n s, c.length ≤ k := by
  induction n generalizing s with
  | zero => simp [expandTrace]
  | succ n ih =>
    simp only [expandTrace]
    by_cases hc : hasCall s = true
    · simp only [hc, if_true]
      cases h : expandOnceB E (some k) s with
      | none => simp
      | some s' =>
        have := ih s'
        refine ⟨by simp; omega, ?_⟩
        intro c hcm
        rcases List.mem_cons.mp hcm with e | e
        · exact e ▸ expandOnceB_le E k s s' h
        · exact this.2 c e
    · simp [hc]

theorem expandLoop_bounded (E : Env) (k n : Nat) (s out : List Char)
    (h : expandLoop E (some k) n s = .ok out) : out = s ∨ out.length ≤ k := by
  induction n generalizing s with
  | zero => simp only [expandLoop, Outcome.ok.injEq] at h; exact Or.inl h.symm
  | succ n ih =>
    simp only [expandLoop] at h
    by_cases hc : hasCall s = true
    · simp only [hc, if_true] at h
      cases h1 : expandOnceB E (some k) s with
      | none => simp [h1] at h
      | some s' =>
        simp only [h1] at h
        rcases ih s' h with e | e
        · right; rw [e]; exact expandOnceB_le E k s s' h1
        · exact Or.inr e
    · simp only [hc, Bool.false_eq_true, if_false, Outcome.ok.injEq] at h
      exact Or.inl h.symm

/-! ### growth of the pinned expander on `macro a [${a} ${a}]` -/

theorem blow_head (k : Nat) : ∃ w, blow k = '$' :: '{' :: w := by
  induction k with
  | zero => exact ⟨_, rfl⟩
  | succ k ih =>
    obtain ⟨w, hw⟩ := ih
    exact ⟨w ++ ' ' :: blow k, by simp [blow, hw]⟩

theorem blow_ne_nil (k : Nat) : blow k ≠ [] := by
  obtain ⟨w, hw⟩ := blow_head k
  simp [hw]

theorem hasCall_blow (k : Nat) : hasCall (blow k) = true := by
  obtain ⟨w, hw⟩ := blow_head k
  have := hasCall_append_call [] w
  simpa [hw] using this

theorem blow_length (k : Nat) : (blow k).length + 1 = 5 * 2 ^ k := by
  induction k with
  | zero => rfl
  | succ k ih =>
    simp only [blow, List.length_append, List.length_cons, Nat.pow_succ]
    omega

theorem closed_blow (k : Nat) : Closed (blow k) = true := by
  induction k with
  | zero => decide
  | succ k ih =>
    rw [closed_iff] at ih ⊢
    have hsp : segments (' ' :: blow k) = Seg.plain ' ' :: segments (blow k) :=
      segments_plain ' ' (blow k) (Or.inl (by decide))
    refine ⟨?_, ?_⟩
    · simp only [blow]
      rw [segments_append _ _ ((closed_iff _).mpr ih), hsp]
      simp [ih.1]
    · simp only [blow]
      rw [getLast?_append_ne _ _ (by simp)]
      cases hb : blow k with
      | nil => exact absurd hb (blow_ne_nil k)
      | cons c cs =>
        rw [List.getLast?_cons_cons, ← hb]
        exact ih.2

theorem expandOnce_blow (k : Nat) : expandOnce selfDouble (blow k) = blow (k + 1) := by
  induction k with
  | zero => decide
  | succ k ih =>
    have e : blow (k + 1) = blow k ++ ([' '] ++ blow k) := by simp [blow]
    rw [e, expandOnce_append _ _ _ (closed_blow k), expandOnce_no_dollar _ [' '] _ (by decide), ih]
    simp [blow]

theorem expandLoop_blow (n k : Nat) : expandLoop selfDouble none n (blow k) = .ok (blow (k + n)) := by
  induction n generalizing k with
  | zero => simp [expandLoop]
  | succ n ih =>
    simp only [expandLoop, hasCall_blow, if_true, expandOnceB_none, expandOnce_blow, ih]
    congr 2
    omega

theorem isWord_not_space (c : Char) (h : isWord c = true) : isSpace c = false := by
  -- letters, digits and `_` lie above the blank
  have h48 : 48 ≤ c.val.toNat := by
    simp only [isWord, Char.isAlphanum, Char.isAlpha, Char.isUpper, Char.isLower, Char.isDigit,
      Bool.or_eq_true, Bool.and_eq_true, decide_eq_true_eq, beq_iff_eq] at h
    rcases h with ((⟨h1, _⟩ | ⟨h1, _⟩) | ⟨h1, _⟩) | h
    · exact Nat.le_trans (by decide) (UInt32.le_iff_toNat_le.mp h1)
    · exact Nat.le_trans (by decide) (UInt32.le_iff_toNat_le.mp h1)
    · exact UInt32.le_iff_toNat_le.mp h1
    · subst h
      decide
  have e : c.toNat = c.val.toNat := rfl
  simp only [isSpace, e, Bool.or_eq_false_iff, Bool.and_eq_false_iff, decide_eq_false_iff_not]
  omega

theorem extractGo_skip (k : Nat) (s : List Char) : extractGo k s = extractGo 0 (s.drop k) := by
  induction k generalizing s with
  | zero => simp
  | succ k ih =>
    cases s with
    | nil => simp [extractGo]
    | cons c cs => simp [extractGo, ih cs]

theorem matchMacroHead_defText (name raw rest : List Char) (hne : name ≠ [])
    (hn : ∀ x ∈ name, isWord x = true) :
    matchMacroHead (defText name raw ++ rest) = some (name, raw ++ ']' :: rest) := by
  obtain ⟨n0, ns, rfl⟩ := List.exists_cons_of_ne_nil hne
  have hn0 : isSpace n0 = false := isWord_not_space n0 (hn n0 (by simp))
  -- the text, character by character up to the name; every stage of the match then is one library fact
  have eshape : defText (n0 :: ns) raw ++ rest =
      'm' :: 'a' :: 'c' :: 'r' :: 'o' :: ' ' :: ((n0 :: ns) ++ ' ' :: '[' :: (raw ++ ']' :: rest)) := by
    simp [defText]
  have e2 : stripPrefix? ['m', 'a', 'c', 'r', 'o']
      ('m' :: 'a' :: 'c' :: 'r' :: 'o' :: ' ' :: ((n0 :: ns) ++ ' ' :: '[' :: (raw ++ ']' :: rest))) =
      some (' ' :: ((n0 :: ns) ++ ' ' :: '[' :: (raw ++ ']' :: rest))) := rfl
  rw [matchMacroHead, eshape, List.dropWhile_cons_of_neg (by decide), e2]
  simp only [show isSpace ' ' = true from by decide, Bool.not_true, Bool.false_eq_true, if_false]
  rw [List.dropWhile_cons_of_pos (by decide), List.cons_append, List.dropWhile_cons_of_neg (by simp [hn0]),
    ← List.cons_append, List.takeWhile_append_of_pos hn, List.takeWhile_cons_of_neg (by decide), List.append_nil,
    List.dropWhile_append_of_pos hn, List.dropWhile_cons_of_neg (by decide), List.dropWhile_cons_of_pos (by decide),
    List.dropWhile_cons_of_neg (by decide)]
  rfl

theorem extractGo_macro (c : Char) (cs name afterOpen body rest : List Char)
    (hm : matchMacroHead (c :: cs) = some (name, afterOpen)) (hs : scanClose '[' ']' 1 afterOpen = some (body, rest)) :
    extractGo 0 (c :: cs) =
      ((name, strip (stripShellComments body)) :: (extractGo 0 (cs.drop (cs.length - rest.length))).1,
        (extractGo 0 (cs.drop (cs.length - rest.length))).2) := by
  simp only [extractGo, hm, hs]
  rw [extractGo_skip]

theorem extract_defText (name raw rest : List Char) (hne : name ≠ []) (hn : ∀ x ∈ name, isWord x = true)
    (hraw : ∀ x ∈ raw, x ≠ '[' ∧ x ≠ ']') :
    extractMacros (defText name raw ++ rest) =
      ((name, strip (stripShellComments raw)) :: (extractMacros rest).1, (extractMacros rest).2) := by
  have hmm := matchMacroHead_defText name raw rest hne hn
  have hsc := scanClose_plain '[' ']' (by decide) raw rest hraw
  generalize hT : ['a', 'c', 'r', 'o', ' '] ++ name ++ [' ', '['] ++ raw ++ [']'] = T
  have hshape : defText name raw ++ rest = 'm' :: (T ++ rest) := by rw [← hT]; rfl
  rw [hshape] at hmm
  rw [extractMacros, hshape, extractGo_macro _ _ _ _ _ _ hmm hsc, drop_length_sub]
  rfl

end SP.Macro
