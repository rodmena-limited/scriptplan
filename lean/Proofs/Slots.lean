import Model.Slots
/-!
Arithmetic of the slot grid of `Model/Slots`: `ceilDiv`, and the index `Board.rawIdx` of the slot a date lies in against the
start `Board.time` of a slot (inverse on slot starts, monotone, floor, inside the board).  Used by C17.
-/
namespace SP

theorem ceilDiv_mul_ge (a G : Int) (hG : 0 < G) : a ≤ ceilDiv a G * G := by
  unfold ceilDiv
  have h1 := Int.ediv_mul_le (-a) (Int.ne_of_gt hG)
  have : -(-a / G) * G = -((-a / G) * G) := by rw [Int.neg_mul]
  omega

theorem ceilDiv_mul_lt (a G : Int) (hG : 0 < G) : (ceilDiv a G - 1) * G < a := by
  unfold ceilDiv
  have h1 := Int.lt_ediv_add_one_mul_self (-a) hG
  have e : (-(-a / G) - 1) * G = -((-a / G + 1) * G) := by
    rw [← Int.neg_mul]; congr 1; omega
  omega

theorem floor_le_ceil (a G : Int) (hG : 0 < G) : a / G ≤ ceilDiv a G := by
  have h1 := Int.ediv_mul_le a (Int.ne_of_gt hG)
  have h2 := ceilDiv_mul_ge a G hG
  have h3 : a / G * G ≤ ceilDiv a G * G := Int.le_trans h1 h2
  exact Int.le_of_mul_le_mul_right h3 hG

theorem Board.time_lt (b : Board) (hG : 0 < b.G) {i j : Int} (h : i < j) : b.time i < b.time j :=
  Int.add_lt_add_left (Int.mul_lt_mul_of_pos_right h hG) b.start

theorem Board.rawIdx_time (b : Board) (hG : 0 < b.G) (i : Int) : b.rawIdx (b.time i) = i := by
  unfold Board.rawIdx Board.time
  rw [Int.add_comm, Int.add_sub_cancel]
  exact Int.mul_tdiv_cancel i (Int.ne_of_gt hG)

/-- from `start` on, truncation is floor division -/
theorem Board.rawIdx_of_le (b : Board) {t : Int} (ht : b.start ≤ t) : b.rawIdx t = (t - b.start) / b.G :=
  Int.tdiv_eq_ediv_of_nonneg (Int.sub_nonneg_of_le ht)

/-- before `start`, truncation toward zero is the negated floor division of the distance -/
theorem Board.rawIdx_of_lt (b : Board) {t : Int} (ht : t < b.start) : b.rawIdx t = -((b.start - t) / b.G) := by
  unfold Board.rawIdx
  rw [← Int.neg_sub b.start t, Int.neg_tdiv, Int.tdiv_eq_ediv_of_nonneg (Int.sub_nonneg_of_le (Int.le_of_lt ht))]

theorem Board.rawIdx_floor (b : Board) (hG : 0 < b.G) {t : Int} (ht : b.start ≤ t) :
    b.time (b.rawIdx t) ≤ t ∧ t < b.time (b.rawIdx t + 1) := by
  unfold Board.time
  rw [b.rawIdx_of_le ht]
  have h1 := Int.ediv_mul_le (t - b.start) (Int.ne_of_gt hG)
  have h2 := Int.lt_ediv_add_one_mul_self (t - b.start) hG
  constructor <;> omega

theorem Board.rawIdx_nonneg (b : Board) (hG : 0 < b.G) {t : Int} (ht : b.start ≤ t) : 0 ≤ b.rawIdx t := by
  rw [b.rawIdx_of_le ht]
  exact Int.ediv_nonneg (Int.sub_nonneg_of_le ht) (Int.le_of_lt hG)

theorem Board.rawIdx_mono_le (b : Board) (hG : 0 < b.G) {t u : Int} (ht : b.start ≤ t) (htu : t ≤ u) :
    b.rawIdx t ≤ b.rawIdx u := by
  rw [b.rawIdx_of_le ht, b.rawIdx_of_le (Int.le_trans ht htu)]
  exact Int.ediv_le_ediv hG (Int.sub_le_sub_right htu b.start)

theorem Board.rawIdx_lt_size (b : Board) (hG : 0 < b.G) {t : Int} (ht : b.start ≤ t) (hte : t ≤ b.stop) :
    b.rawIdx t < b.size := by
  have h1 := b.rawIdx_mono_le hG ht hte
  rw [b.rawIdx_of_le (Int.le_trans ht hte)] at h1
  exact Int.lt_add_one_iff.mpr (Int.le_trans h1 (floor_le_ceil _ _ hG))

/-- before the window the conversion truncates toward zero: instants less than one slot before
    `start` are mapped to slot 0 (not rejected) — stated, not hidden by totalisation -/
theorem Board.rawIdx_before (b : Board) (hG : 0 < b.G) {t : Int} (ht : t < b.start) :
    b.rawIdx t ≤ 0 ∧ (b.start - b.G < t → b.rawIdx t = 0) ∧ t ≤ b.time (b.rawIdx t) := by
  unfold Board.time
  rw [b.rawIdx_of_lt ht]
  have h0 : 0 ≤ (b.start - t) / b.G := Int.ediv_nonneg (Int.sub_nonneg_of_le (Int.le_of_lt ht)) (Int.le_of_lt hG)
  have h1 := Int.ediv_mul_le (b.start - t) (Int.ne_of_gt hG)
  refine ⟨Int.neg_nonpos_of_nonneg h0, fun h => ?_, ?_⟩
  · rw [Int.ediv_eq_zero_of_lt (Int.sub_nonneg_of_le (Int.le_of_lt ht)) (by omega)]
    rfl
  · rw [Int.neg_mul]
    omega

end SP
