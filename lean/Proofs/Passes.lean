import Proofs.SchedInv
/-!
Reading and writing the task table (`tst_setT` and its corollaries), and the passes before and after the pick loop
(`prepare`, `milestonePrepass`, `propagateAlap`, `updateContainers`, `finishScenario`), which write task attributes only.
`AttrStep R σ σ'` says so: the books (ledger, counters, marks) and the size of the task table are those of `σ`, and the
attributes of every task `t` moved along `R t`.  Each pass has one lemma (`*_attr`), for any reflexive and transitive `R`
that the pass's own update respects; `*_books` is the instance that only says the books are kept.  The work list the loop
starts from (`todoOf_*`).
-/
namespace SP

theorem tst_setT (σ : St) (t : Nat) (x : TSt) (t' : Nat) :
    (σ.setT t x).tst t' = if t = t' ∧ t < σ.ts.size then x else σ.tst t' := by
  unfold St.setT St.tst
  simp only [Array.getD_eq_getD_getElem?, Array.getElem?_setIfInBounds]
  by_cases h : t = t'
  · subst h
    by_cases hb : t < σ.ts.size
    · simp [hb]
    · simp [hb]
  · simp [h]

theorem tst_setT_other (σ : St) (t : Nat) (x : TSt) (t' : Nat) (h : t ≠ t') : (σ.setT t x).tst t' = σ.tst t' := by
  rw [tst_setT]; simp [h]

theorem size_setT (σ : St) (t : Nat) (x : TSt) : (σ.setT t x).ts.size = σ.ts.size := by
  unfold St.setT; simp

theorem tst_setT_same (σ : St) (t : Nat) (x : TSt) (hb : t < σ.ts.size) : (σ.setT t x).tst t = x := by
  rw [tst_setT]; simp [hb]

theorem tst_setT_cases (σ : St) (t : Nat) (x : TSt) : (σ.setT t x).tst t = x ∨ (σ.setT t x).tst t = σ.tst t := by
  rw [tst_setT]
  split
  · exact Or.inl rfl
  · exact Or.inr rfl

theorem tst_setT_self (σ : St) (x y : Nat) : (σ.setT x (σ.tst x)).tst y = σ.tst y := by
  rw [tst_setT]
  split
  · rename_i h; rw [h.1]
  · rfl

theorem tst_congr {σ σ' : St} (h : σ'.ts = σ.ts) (x : Nat) : σ'.tst x = σ.tst x := by
  unfold St.tst; rw [h]

theorem tst_warnings (σ : St) (ws : List String) (t : Nat) : ({ σ with warnings := ws } : St).tst t = σ.tst t := rfl

structure AttrStep (R : Nat → TSt → TSt → Prop) (σ σ' : St) : Prop where
  led : σ'.led = σ.led
  cnt : σ'.cnt = σ.cnt
  marks : σ'.marks = σ.marks
  size : σ'.ts.size = σ.ts.size
  tst : ∀ t, R t (σ.tst t) (σ'.tst t)

structure Preorder' (R : Nat → TSt → TSt → Prop) : Prop where
  refl : ∀ t x, R t x x
  trans : ∀ t x y z, R t x y → R t y z → R t x z

variable {R : Nat → TSt → TSt → Prop}

theorem AttrStep.refl (hR : Preorder' R) (σ : St) : AttrStep R σ σ := ⟨rfl, rfl, rfl, rfl, fun t => hR.refl t _⟩

theorem AttrStep.trans (hR : Preorder' R) {σ σ' σ'' : St} (h1 : AttrStep R σ σ') (h2 : AttrStep R σ' σ'') :
    AttrStep R σ σ'' :=
  ⟨h2.led.trans h1.led, h2.cnt.trans h1.cnt, h2.marks.trans h1.marks, h2.size.trans h1.size,
   fun t => hR.trans t _ _ _ (h1.tst t) (h2.tst t)⟩

theorem AttrStep.setT (hR : Preorder' R) (σ : St) (t : Nat) (x : TSt) (hx : R t (σ.tst t) x) : AttrStep R σ (σ.setT t x) := by
  refine ⟨rfl, rfl, rfl, size_setT σ t x, fun t' => ?_⟩
  rw [tst_setT]
  split
  · rename_i h; exact h.1 ▸ hx
  · exact hR.refl t' _

theorem foldl_setT_attr (hR : Preorder' R) (f : St → Nat → TSt) (hf : ∀ acc x, R x (acc.tst x) (f acc x)) (l : List Nat)
    (σ : St) : AttrStep R σ (l.foldl (fun (acc : St) t => acc.setT t (f acc t)) σ) := by
  induction l generalizing σ with
  | nil => exact AttrStep.refl hR σ
  | cons x xs ih => exact (AttrStep.setT hR σ x _ (hf σ x)).trans hR (ih _)

theorem prepare_attr (e : Env) (hR : Preorder' R) (hp : ∀ σ t, R t (σ.tst t) (projAlapT e σ t))
    (hc : ∀ σ0 σ t, R t (σ.tst t) (containerEndT e σ0 σ t)) (σ : St) : AttrStep R σ (prepare e σ) := by
  unfold prepare propagateContainerEnds
  exact (foldl_setT_attr hR _ hp _ σ).trans hR (foldl_setT_attr hR _ (hc _) _ _)

theorem milestonePrepass_attr (e : Env) (hR : Preorder' R) (hp : ∀ σ t, R t (σ.tst t) (prepassT e σ t)) (σ : St) :
    AttrStep R σ (milestonePrepass e σ) :=
  foldl_setT_attr hR _ hp _ σ

theorem updateContainers_attr (e : Env) (hR : Preorder' R) (hr : ∀ σ t, R t (σ.tst t) (rollupT e σ t)) (σ : St) :
    AttrStep R σ (updateContainers e σ) :=
  foldl_setT_attr hR _ hr _ σ

theorem markAlap_attr (e : Env) (hR : Preorder' R) (hb : ∀ t x, R t x { x with forward := false }) (fuel : Nat)
    (stack processed : List Nat) (σ : St) : AttrStep R σ (markAlap e fuel stack processed σ).1 := by
  induction fuel generalizing stack processed σ with
  | zero => unfold markAlap; exact AttrStep.refl hR σ
  | succ f ih =>
    cases stack with
    | nil => unfold markAlap; exact AttrStep.refl hR σ
    | cons t stack =>
      unfold markAlap
      simp only []
      split
      · exact ih _ _ _
      · split
        · exact ih _ _ _
        · split
          · exact ih _ _ _
          · exact (AttrStep.setT hR σ t _ (hb t _)).trans hR (ih _ _ _)

theorem propagateAlap_attr (e : Env) (hR : Preorder' R) (hb : ∀ t x, R t x { x with forward := false }) (σ : St) :
    AttrStep R σ (propagateAlap e σ) := by
  unfold propagateAlap
  simp only []
  exact foldl_inv (fun (acc : St × List Nat) => AttrStep R σ acc.1) _ _ (σ, []) (AttrStep.refl hR σ)
    (fun acc a h => h.trans hR (markAlap_attr e hR hb _ _ _ acc.1))

theorem preLoop_attr (e : Env) (hR : Preorder' R) (hp : ∀ σ t, R t (σ.tst t) (prepassT e σ t))
    (hb : ∀ t x, R t x { x with forward := false }) (hr : ∀ σ t, R t (σ.tst t) (rollupT e σ t)) (σ : St) :
    AttrStep R σ (preLoop e σ) :=
  ((milestonePrepass_attr e hR hp σ).trans hR (propagateAlap_attr e hR hb _)).trans hR (updateContainers_attr e hR hr _)

theorem finishScenario_attr (e : Env) (hR : Preorder' R)
    (hc : ∀ σ t, (e.taskD t).leaf = false → R t (σ.tst t) (containerT e σ t)) (σ : St) :
    AttrStep R σ (finishScenario e σ) := by
  unfold finishScenario
  apply foldl_inv (fun acc => AttrStep R σ acc) _ _ σ (AttrStep.refl hR σ)
  intro acc t h
  split
  · exact h
  · rename_i hl
    exact h.trans hR (AttrStep.setT hR acc t _ (hc acc t (by simpa using hl)))

/-- whatever else a pass does, it keeps the books -/
def anyAttr : Nat → TSt → TSt → Prop := fun _ _ _ => True

theorem anyAttr_preorder : Preorder' anyAttr := ⟨fun _ _ => trivial, fun _ _ _ _ _ _ => trivial⟩

theorem prepare_books (e : Env) (σ : St) : AttrStep anyAttr σ (prepare e σ) :=
  prepare_attr e anyAttr_preorder (fun _ _ => trivial) (fun _ _ _ => trivial) σ

theorem preLoop_books (e : Env) (σ : St) : AttrStep anyAttr σ (preLoop e σ) :=
  preLoop_attr e anyAttr_preorder (fun _ _ => trivial) (fun _ _ => trivial) (fun _ _ => trivial) σ

theorem updateContainers_books (e : Env) (σ : St) : AttrStep anyAttr σ (updateContainers e σ) :=
  updateContainers_attr e anyAttr_preorder (fun _ _ => trivial) σ

theorem updateContainers_led (e : Env) (σ : St) : (updateContainers e σ).led = σ.led := (updateContainers_books e σ).led

theorem finishScenario_books (e : Env) (σ : St) : AttrStep anyAttr σ (finishScenario e σ) :=
  finishScenario_attr e anyAttr_preorder (fun _ _ _ => trivial) σ

/-! The work list of the pick loop: distinct leaves of the project that are not scheduled yet. -/

theorem todoOf_nodup (e : Env) (σ : St) : (todoOf e σ).Nodup := by
  unfold todoOf
  exact ((List.mergeSort_perm _ _).nodup_iff).mpr (List.Nodup.sublist List.filter_sublist List.nodup_range)

theorem todoOf_mem (e : Env) (σ : St) (t : Nat) (h : t ∈ todoOf e σ) :
    t < e.tasks.size ∧ (σ.tst t).scheduled = false := by
  unfold todoOf at h
  have h1 : t ∈ (List.range e.tasks.size).filter (fun t => (e.taskD t).leaf && !(σ.tst t).scheduled) :=
    (List.mergeSort_perm _ _).mem_iff.mp h
  simp only [List.mem_filter, List.mem_range, Bool.and_eq_true, Bool.not_eq_true'] at h1
  exact ⟨h1.1, h1.2.2⟩

theorem todoOf_leaf (e : Env) (σ : St) : ∀ t ∈ todoOf e σ, (e.taskD t).leaf = true := by
  intro t ht
  unfold todoOf at ht
  have := (List.mem_filter.mp (List.mem_mergeSort.mp ht)).2
  simp only [Bool.and_eq_true] at this
  exact this.1

end SP
