import Proofs.Solid
import Proofs.NoIdle
import Proofs.FrameBack
/-!
C11: whatever is booked is booked inside the scheduling horizon — every ledger entry lies at a slot in `[0, upper]` — and hence
the reported dates of a framed task lie between the project start and the end of the horizon.
-/
namespace SP

/-- every ledger entry lies at a slot of the scheduling horizon -/
def InHorizon (e : Env) (σ : St) : Prop := ∀ r i, (σ.led.get r i).usage ≠ [] → 0 ≤ i ∧ i ≤ e.upper

theorem inHorizon_closed (e : Env) : Closed e (InHorizon e) where
  eq := by intro σ σ' hl _ _ h; unfold InHorizon at *; rw [hl]; exact h
  reserve := by
    intro σ r' i' off _ _ _ h r i hu
    unfold reserveAt at hu
    simp only [Ledger.get_set] at hu
    split at hu
    · rename_i heq; rw [reserve_usage, heq.1, heq.2] at hu; exact h r i hu
    · exact h r i hu
  release := by
    intro σ r' i' t a _ _ _ _ h r i hu
    have hu' : ((σ.led.set r' i' ((σ.led.get r' i').release t a)).get r i).usage ≠ [] := hu
    simp only [Ledger.get_set] at hu'
    split at hu'
    · rename_i heq
      apply h r i
      intro hn
      apply hu'
      rw [← heq.1, ← heq.2] at hn
      exact (release_usage_nil_iff _ t a).mpr hn
    · exact h r i hu'
  book := by
    intro σ r' i' t _ _ _ h0 hup _ _ h r i hu
    rw [bookSlot_eq, incAll_led] at hu
    simp only [Ledger.get_set] at hu
    split at hu
    · rename_i heq; rw [← heq.2]; exact ⟨h0, hup⟩
    · exact h r i hu

theorem inHorizon_init (e : Env) : InHorizon e (initState e) := by
  intro r i hu
  simp [initState, Ledger.get_empty] at hu

/-- **nothing is booked outside the scheduling horizon**: after scheduling any well-formed project every ledger entry lies at a
    slot `0 ≤ i ≤ upper` -/
theorem runScenario_inHorizon (e : Env) (wf : WF e) : InHorizon e (runScenario e) :=
  runScenario_closed (inHorizon_closed e) wf (fun _ => trivial) (inHorizon_init e)

/-- a framed task's dates lie inside the horizon -/
theorem Framed.inside {e : Env} {σ : St} {t r : Nat} (wf : WF e) (hh : InHorizon e σ) (h : Framed e σ t r) :
    ∃ s v, (σ.tst t).start = some s ∧ (σ.tst t).stop = some v ∧ e.time 0 ≤ s ∧ v ≤ e.time (e.upper + 1) := by
  obtain ⟨fb, last, _, hfb, hlast, _, ⟨s, hs, hs1, _⟩, ⟨v, hv, _, hv2⟩⟩ := h
  have h1 := hh r fb (usage_ne_nil_of_usageOf hfb)
  have h2 := hh r last (usage_ne_nil_of_usageOf hlast)
  refine ⟨s, v, hs, hv, Int.le_trans (time_mono e wf.G_pos _ _ h1.1) hs1, Int.le_trans hv2 (time_mono e wf.G_pos _ _ (by omega))⟩

end SP
