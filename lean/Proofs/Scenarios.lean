import Model
import Model.Scenarios
/-!
What applying scenario-specific overrides does to the task list (C16): the number of tasks never changes, a task no
override names keeps every attribute, the task an override names gets the effort, start and end the override gives and keeps
the rest (`applyOne_same`), and overrides that name no task of the list change nothing (`foldl_applyOne_void`).
-/
namespace SP
theorem applyOne_length (ts : List RawTask) (o : Override) : (applyOne ts o).length = ts.length := by
  simp [applyOne]

theorem applyOne_other (ts : List RawTask) (o : Override) (i : Nat) (h : o.task ≠ i) :
    (applyOne ts o)[i]? = ts[i]? := by
  unfold applyOne
  rw [List.getElem?_map, List.getElem?_zipIdx]
  cases hts : ts[i]? with
  | none => simp
  | some t =>
    simp only [Option.map_some, Nat.zero_add]
    rw [if_neg (by simpa using (fun h' : i = o.task => h h'.symm))]

theorem foldl_applyOne_length (ovs : List Override) (ts : List RawTask) :
    (ovs.foldl applyOne ts).length = ts.length := by
  induction ovs generalizing ts with
  | nil => rfl
  | cons o os ih => simp only [List.foldl_cons]; rw [ih, applyOne_length]

theorem foldl_applyOne_other (ovs : List Override) (ts : List RawTask) (i : Nat) (h : ∀ o ∈ ovs, o.task ≠ i) :
    (ovs.foldl applyOne ts)[i]? = ts[i]? := by
  induction ovs generalizing ts with
  | nil => rfl
  | cons o os ih =>
    simp only [List.foldl_cons]
    rw [ih _ (fun o' ho' => h o' (List.mem_cons_of_mem _ ho')), applyOne_other _ _ _ (h o List.mem_cons_self)]
/-- what an override does to the task it names: each attribute it carries replaces the base value, the others stay -/
theorem applyOne_same (ts : List RawTask) (o : Override) (t : RawTask) (h : ts[o.task]? = some t) :
    (applyOne ts o)[o.task]? = some { t with
      effort := (o.effort <|> t.effort), start := (o.start <|> t.start), stop := (o.stop <|> t.stop) } := by
  unfold applyOne
  rw [List.getElem?_map, List.getElem?_zipIdx, h]
  simp only [Option.map_some, Nat.zero_add, beq_self_eq_true, if_true]
  cases o.effort <;> cases o.start <;> cases o.stop <;> rfl
theorem foldl_applyOne_void (ovs : List Override) (ts : List RawTask) (h : ∀ o ∈ ovs, ts.length ≤ o.task) :
    ovs.foldl applyOne ts = ts := by
  apply List.ext_getElem?
  intro i
  by_cases hi : i < ts.length
  · exact foldl_applyOne_other ovs ts i (fun o ho heq => by have := h o ho; omega)
  · have h1 : (ovs.foldl applyOne ts)[i]? = none := by
      rw [List.getElem?_eq_none_iff, foldl_applyOne_length]; omega
    rw [h1, List.getElem?_eq_none_iff.mpr (by omega)]
end SP
