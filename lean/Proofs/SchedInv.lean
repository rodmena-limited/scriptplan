import Model.Sched
import Proofs.Ledger
import Proofs.ListLemmas
import Proofs.Slots
/-!
The safety invariant `Inv` of the scheduler state: every (resource, slot) satisfies `SlotInv` (C01); a slot that carries a
booking is on shift for a leaf resource, and booked by leaf tasks (C02 a, C10); every limit counter is at most its limit
(C05).  The primitive state changes of `Model/Sched.lean` keep it (`bookSlot_inv`, `reserveAt_inv`, `releaseAt_inv`,
`inv_setT`); `Proofs/Closed` carries it through the scheduler.  Also here: `WF`, what is assumed of an environment; the
access lemmas `Ledger.get_set`, `Counters.get_set`, `Marks.get_set`; a booking as equations (`bookSlot_eq` over `incAll`);
and `WalkOk`, the bounds on the start offset of a walk, with the cursor arithmetic that establishes them.
-/
namespace SP

/-! Finite-map access lemmas: the only facts about `Std.HashMap` the proofs use. -/

theorem Ledger.get_set (L : Ledger) (r : Nat) (i : Int) (s : Slot) (r' : Nat) (i' : Int) :
    (L.set r i s).get r' i' = if r = r' ∧ i = i' then s else L.get r' i' := by
  unfold Ledger.get Ledger.set
  rw [Std.HashMap.getD_insert]
  by_cases h : r = r' ∧ i = i'
  · obtain ⟨h1, h2⟩ := h; subst h1; subst h2; simp
  · have : ((r, i) == (r', i')) = false := by
      simp only [beq_eq_false_iff_ne, ne_eq, Prod.mk.injEq]; exact h
    simp [this, h]

theorem Counters.get_set (C : Counters) (l : Nat) (k : Int) (v : Int) (l' : Nat) (k' : Int) :
    (C.set l k v).get l' k' = if l = l' ∧ k = k' then v else C.get l' k' := by
  unfold Counters.get Counters.set
  rw [Std.HashMap.getD_insert]
  by_cases h : l = l' ∧ k = k'
  · obtain ⟨h1, h2⟩ := h; subst h1; subst h2; simp
  · have : ((l, k) == (l', k')) = false := by
      simp only [beq_eq_false_iff_ne, ne_eq, Prod.mk.injEq]; exact h
    simp [this, h]

theorem Marks.get_set (M : Marks) (r : Nat) (i : Int) (r' : Nat) (i' : Int) :
    (M.set r i).get r' i' = if r = r' ∧ i = i' then true else M.get r' i' := by
  unfold Marks.get Marks.set
  rw [Std.HashMap.getD_insert]
  by_cases h : r = r' ∧ i = i'
  · obtain ⟨h1, h2⟩ := h; subst h1; subst h2; simp
  · have : ((r, i) == (r', i')) = false := by
      simp only [beq_eq_false_iff_ne, ne_eq, Prod.mk.injEq]; exact h
    simp [this, h]

theorem Ledger.get_empty (r : Nat) (i : Int) : ({} : Ledger).get r i = {} := by
  simp [Ledger.get]

theorem Counters.get_empty (l : Nat) (k : Int) : ({} : Counters).get l k = 0 := by
  simp [Counters.get]

structure WF (e : Env) : Prop where
  G_pos : 0 < e.G
  eff_pos : ∀ r, 0 < (e.resD r).eff
  effort_nonneg : ∀ t, 0 ≤ (e.taskD t).effort
  lim_nodup : ∀ r t, (resLimitIds e r ++ taskLimitIds e t).Nodup

structure Inv (e : Env) (σ : St) : Prop where
  slot : ∀ r i, SlotInv e.G (σ.led.get r i)
  shift : ∀ r i, (σ.led.get r i).usage ≠ [] → e.onShift r i = true ∧ (e.resD r).leaf = true
  cnt : ∀ lid k, σ.cnt.get lid k ≤ max 0 (e.limitD lid).value
  leafTask : ∀ r i x, x ∈ (σ.led.get r i).usage → (e.taskD x.1).leaf = true

theorem Inv.of_eq {e : Env} {σ σ' : St} (hl : σ'.led = σ.led) (hc : σ'.cnt = σ.cnt) (h : Inv e σ) : Inv e σ' :=
  ⟨by rw [hl]; exact h.slot, by rw [hl]; exact h.shift, by rw [hc]; exact h.cnt, by rw [hl]; exact h.leafTask⟩

theorem G_rat_nonneg {e : Env} (wf : WF e) : (0 : Rat) ≤ (e.G : Rat) := by
  have : (0 : Int) ≤ e.G := Int.le_of_lt wf.G_pos
  exact_mod_cast this

theorem inv_init (e : Env) (wf : WF e) : Inv e (initState e) := by
  refine ⟨?_, ?_, ?_, ?_⟩
  · intro r i; simp only [initState, Ledger.get_empty]; exact slotInv_empty e.G wf.G_pos
  · intro r i h; simp [initState, Ledger.get_empty] at h
  · intro lid k; simp only [initState, Counters.get_empty]; omega
  · intro r i x hx; simp [initState, Ledger.get_empty] at hx

@[simp] theorem limitInc_led (e : Env) (σ : St) (lid : Nat) (i : Int) (r : Option Nat) :
    (limitInc e σ lid i r).led = σ.led := by
  unfold limitInc; simp only []; split <;> (try rfl); split <;> rfl

@[simp] theorem limitInc_marks (e : Env) (σ : St) (lid : Nat) (i : Int) (r : Option Nat) :
    (limitInc e σ lid i r).marks = σ.marks := by
  unfold limitInc; simp only []; split <;> (try rfl); split <;> rfl

@[simp] theorem limitInc_ts (e : Env) (σ : St) (lid : Nat) (i : Int) (r : Option Nat) :
    (limitInc e σ lid i r).ts = σ.ts := by
  unfold limitInc; simp only []; split <;> (try rfl); split <;> rfl

@[simp] theorem limitInc_warnings (e : Env) (σ : St) (lid : Nat) (i : Int) (r : Option Nat) :
    (limitInc e σ lid i r).warnings = σ.warnings := by
  unfold limitInc; simp only []; split <;> (try rfl); split <;> rfl

theorem limitInc_cnt_other (e : Env) (σ : St) (lid : Nat) (i : Int) (r : Option Nat) (l : Nat) (k : Int)
    (h : l ≠ lid) : (limitInc e σ lid i r).cnt.get l k = σ.cnt.get l k := by
  unfold limitInc; simp only []
  split
  · rfl
  · split
    · rfl
    · simp only [Counters.get_set]
      have : ¬ (lid = l ∧ e.period (e.limitD lid) i = k) := by intro hh; exact h hh.1.symm
      simp [this]

def CntInv (e : Env) (σ : St) : Prop := ∀ lid k, σ.cnt.get lid k ≤ max 0 (e.limitD lid).value

theorem limitInc_cntInv (e : Env) (σ : St) (lid : Nat) (i : Int) (r : Option Nat)
    (hok : limitOk e σ lid i r = true) (h : CntInv e σ) : CntInv e (limitInc e σ lid i r) := by
  intro l k
  by_cases hl : l = lid
  · subst hl
    unfold limitInc; simp only []
    unfold limitOk at hok; simp only [] at hok
    split
    · exact h l k
    · rename_i hf
      simp only [hf, Bool.false_eq_true, if_false] at hok
      split
      · exact h l k
      · rename_i hk
        simp only [hk, if_false, decide_eq_true_eq] at hok
        simp only [Counters.get_set]
        split
        · omega
        · exact h l k
  · rw [limitInc_cnt_other e σ lid i r l k hl]; exact h l k

theorem limitOk_congr (e : Env) (σ σ' : St) (lid : Nat) (i : Int) (r : Option Nat)
    (h : ∀ k, σ'.cnt.get lid k = σ.cnt.get lid k) : limitOk e σ' lid i r = limitOk e σ lid i r := by
  unfold limitOk; simp only [h]

/-- increment a list of (limit id, resource filter) pairs, as `book` does -/
def incAll (e : Env) (σ : St) (ps : List (Nat × Option Nat)) (i : Int) : St :=
  ps.foldl (fun acc p => limitInc e acc p.1 i p.2) σ

theorem incAll_led (e : Env) (σ : St) (ps) (i : Int) : (incAll e σ ps i).led = σ.led := by
  induction ps generalizing σ with
  | nil => rfl
  | cons p ps ih => simp only [incAll, List.foldl_cons] at *; rw [ih]; simp

theorem incAll_marks (e : Env) (σ : St) (ps) (i : Int) : (incAll e σ ps i).marks = σ.marks := by
  induction ps generalizing σ with
  | nil => rfl
  | cons p ps ih => simp only [incAll, List.foldl_cons] at *; rw [ih]; simp

theorem incAll_ts (e : Env) (σ : St) (ps) (i : Int) : (incAll e σ ps i).ts = σ.ts := by
  induction ps generalizing σ with
  | nil => rfl
  | cons p ps ih => simp only [incAll, List.foldl_cons] at *; rw [ih]; simp

theorem incAll_warnings (e : Env) (σ : St) (ps) (i : Int) : (incAll e σ ps i).warnings = σ.warnings := by
  induction ps generalizing σ with
  | nil => rfl
  | cons p ps ih => simp only [incAll, List.foldl_cons] at *; rw [ih]; simp

theorem incAll_cntInv (e : Env) (σ : St) (ps : List (Nat × Option Nat)) (i : Int)
    (hnd : (ps.map (·.1)).Nodup) (hok : ∀ p ∈ ps, limitOk e σ p.1 i p.2 = true) (h : CntInv e σ) :
    CntInv e (incAll e σ ps i) := by
  induction ps generalizing σ with
  | nil => exact h
  | cons p ps ih =>
    simp only [incAll, List.foldl_cons]
    obtain ⟨hnotin, hnd'⟩ : p.1 ∉ ps.map (·.1) ∧ (ps.map (·.1)).Nodup := List.nodup_cons.mp hnd
    apply ih (limitInc e σ p.1 i p.2) hnd'
    · intro q hq
      have hne : q.1 ≠ p.1 := by
        intro heq; apply hnotin; rw [← heq]; exact List.mem_map_of_mem hq
      rw [limitOk_congr e σ _ q.1 i q.2 (fun k => limitInc_cnt_other e σ p.1 i p.2 q.1 k hne)]
      exact hok q (List.mem_cons_of_mem _ hq)
    · exact limitInc_cntInv e σ p.1 i p.2 (hok p List.mem_cons_self) h

theorem limitInc_cnt_congr (e : Env) (σ σ' : St) (lid : Nat) (i : Int) (r : Option Nat) (h : σ'.cnt = σ.cnt) :
    (limitInc e σ' lid i r).cnt = (limitInc e σ lid i r).cnt := by
  unfold limitInc
  simp only []
  split
  · exact h
  · split
    · exact h
    · simp only [h]

theorem incAll_cnt_congr (e : Env) (σ σ' : St) (ps : List (Nat × Option Nat)) (i : Int) (h : σ'.cnt = σ.cnt) :
    (incAll e σ' ps i).cnt = (incAll e σ ps i).cnt := by
  induction ps generalizing σ σ' with
  | nil => exact h
  | cons p ps ih =>
    simp only [incAll, List.foldl_cons]
    exact ih _ _ (limitInc_cnt_congr e σ σ' p.1 i p.2 h)

def bookPairs (e : Env) (r t : Nat) : List (Nat × Option Nat) :=
  (resLimitIds e r).map (fun l => (l, (none : Option Nat))) ++ (taskLimitIds e t).map (fun l => (l, some r))

theorem bookSlot_eq (e : Env) (σ : St) (r : Nat) (i : Int) (t : Nat) :
    (bookSlot e σ r i t).1 =
      incAll e { σ with led := σ.led.set r i ((σ.led.get r i).book e.G t), marks := σ.marks.set r (e.norm i) }
        (bookPairs e r t) i := by
  simp only [bookSlot, incAll, bookPairs, List.foldl_append, List.foldl_map]

/-- `countMember` is the counter part of a real booking -/
theorem countMember_eq (e : Env) (σ : St) (t : Nat) (i : Int) (r : Nat) :
    countMember e σ t i r = incAll e σ (bookPairs e r t) i := by
  simp only [countMember, incAll, bookPairs, List.foldl_append, List.foldl_map]

theorem bookSlot_cnt (e : Env) (σ : St) (r : Nat) (i : Int) (t : Nat) :
    (bookSlot e σ r i t).1.cnt = (countMember e σ t i r).cnt := by
  rw [bookSlot_eq, countMember_eq]
  exact incAll_cnt_congr e σ _ _ i rfl

theorem bookSlot_marks (e : Env) (σ : St) (r : Nat) (i : Int) (t : Nat) :
    (bookSlot e σ r i t).1.marks = σ.marks.set r (e.norm i) := by
  rw [bookSlot_eq, incAll_marks]

theorem bookSlot_ts (e : Env) (σ : St) (r : Nat) (i : Int) (t : Nat) : (bookSlot e σ r i t).1.ts = σ.ts := by
  rw [bookSlot_eq, incAll_ts]

theorem available_true {e : Env} {σ : St} {r : Nat} {i : Int} (h : available e σ r i = true) :
    (e.resD r).leaf = true ∧ e.onShift r i = true ∧
    (∀ lid ∈ resLimitIds e r, limitOk e σ lid i none = true) := by
  unfold available at h
  simp only [Bool.and_eq_true, List.all_eq_true] at h
  exact ⟨h.1.1.1.1, h.1.1.1.2, h.2⟩

theorem bookSlot_inv (e : Env) (σ : St) (r : Nat) (i : Int) (t : Nat) (wf : WF e) (h : Inv e σ)
    (hlf : (e.taskD t).leaf = true)
    (ha : available e σ r i = true) (hl : taskLimitsOk e σ t i r = true) : Inv e (bookSlot e σ r i t).1 := by
  rw [bookSlot_eq]
  obtain ⟨hleaf, hshift, hres⟩ := available_true ha
  have htask : ∀ lid ∈ taskLimitIds e t, limitOk e σ lid i (some r) = true := by
    unfold taskLimitsOk at hl; simpa [List.all_eq_true] using hl
  refine ⟨?_, ?_, ?_, ?_⟩
  · intro r' i'
    rw [incAll_led]
    simp only [Ledger.get_set]
    split
    · exact book_inv e.G _ t (h.slot r i)
    · exact h.slot r' i'
  · intro r' i'
    rw [incAll_led]
    simp only [Ledger.get_set]
    split
    · rename_i heq
      intro _
      rw [← heq.1, ← heq.2]; exact ⟨hshift, hleaf⟩
    · exact h.shift r' i'
  · have hc : CntInv e { σ with led := σ.led.set r i ((σ.led.get r i).book e.G t), marks := σ.marks.set r (e.norm i) } := h.cnt
    apply incAll_cntInv e _ (bookPairs e r t) i
    · have : (bookPairs e r t).map (·.1) = resLimitIds e r ++ taskLimitIds e t := by
        simp [bookPairs, List.map_append, List.map_map, Function.comp_def]
      rw [this]; exact wf.lim_nodup r t
    · intro p hp
      simp only [bookPairs, List.mem_append, List.mem_map] at hp
      rcases hp with ⟨l, hl1, rfl⟩ | ⟨l, hl1, rfl⟩
      · exact hres l hl1
      · exact htask l hl1
    · exact hc
  · intro r' i' x
    rw [incAll_led]
    simp only [Ledger.get_set]
    split
    · intro hx
      simp only [Slot.book, List.mem_append, List.mem_singleton] at hx
      rcases hx with hx | hx
      · exact h.leafTask r i x hx
      · rw [hx]; exact hlf
    · exact h.leafTask r' i' x

/-- offsets handed to `reserve` are inside the slot -/
structure WalkOk (e : Env) (t : Nat) (w : Walk) : Prop where
  off_nonneg : 0 ≤ w.offset
  off_le : w.offset ≤ (e.G : Rat)
  done_le : w.done ≤ (e.taskD t).effort

def reserveStep (σ : St) (w : Walk) (r : Nat) : St :=
  if w.offset > 0 && w.done == 0 then
    { σ with led := σ.led.set r w.cur ((σ.led.get r w.cur).reserve w.offset) }
  else σ

theorem bookResource_eq (e : Env) (σ : St) (t : Nat) (w : Walk) (r : Nat) :
    bookResource e σ t w r =
      if available e (reserveStep σ w r) r w.cur && taskLimitsOk e (reserveStep σ w r) t w.cur r
      then bookSlot e (reserveStep σ w r) r w.cur t else (reserveStep σ w r, 0) := rfl

theorem reserveAt_inv (e : Env) (σ : St) (r : Nat) (i : Int) (off : Rat) (h : Inv e σ)
    (h0 : 0 ≤ off) (h1 : off ≤ (e.G : Rat)) : Inv e (reserveAt σ r i off) := by
  unfold reserveAt
  refine ⟨?_, ?_, h.cnt, ?_⟩
  rotate_left 2
  · intro r' i' x
    simp only [Ledger.get_set]
    split
    · intro hx
      have : x ∈ (σ.led.get r i).usage := by
        unfold Slot.reserve at hx; split at hx <;> exact hx
      exact h.leafTask r i x this
    · exact h.leafTask r' i' x
  · intro r' i'
    simp only [Ledger.get_set]
    split
    · exact reserve_inv e.G _ _ h0 h1 (h.slot r i)
    · exact h.slot r' i'
  · intro r' i'
    simp only [Ledger.get_set]
    split
    · rename_i heq
      intro hne
      have : (σ.led.get r i).usage ≠ [] := by
        unfold Slot.reserve at hne; split at hne <;> exact hne
      rw [← heq.1, ← heq.2]; exact h.shift r i this
    · exact h.shift r' i'

theorem teamCommon_le (σ : St) (cur : Int) (sel : List Nat) (B : Rat) (h0 : 0 ≤ B)
    (h : ∀ m ∈ sel, (σ.led.get m cur).used ≤ B) : teamCommon σ cur sel ≤ B := by
  unfold teamCommon
  have : ∀ (l : List Nat) (init : Rat), init ≤ B → (∀ m ∈ l, (σ.led.get m cur).used ≤ B) →
      l.foldl (fun m r => max m (σ.led.get r cur).used) init ≤ B := by
    intro l
    induction l with
    | nil => intro init hi _; exact hi
    | cons x xs ih =>
      intro init hi hl
      refine ih _ ?_ (fun m hm => hl m (List.mem_cons_of_mem _ hm))
      show max init (σ.led.get x cur).used ≤ B
      rw [Rat.max_def]
      split
      · exact hl x List.mem_cons_self
      · exact hi
  exact this sel 0 h0 h

theorem teamCommon_bounds (e : Env) (σ : St) (cur : Int) (sel : List Nat) (wf : WF e) (h : Inv e σ) :
    0 ≤ teamCommon σ cur sel ∧ teamCommon σ cur sel ≤ (e.G : Rat) :=
  ⟨foldl_inv (fun m => (0 : Rat) ≤ m) _ sel 0 Rat.le_refl (fun _ _ hm => by grind),
   teamCommon_le σ cur sel _ (G_rat_nonneg wf) (fun m _ => (h.slot m cur).used_le)⟩

@[simp] theorem setT_led (σ : St) (t : Nat) (x : TSt) : (σ.setT t x).led = σ.led := rfl
@[simp] theorem setT_cnt (σ : St) (t : Nat) (x : TSt) : (σ.setT t x).cnt = σ.cnt := rfl
@[simp] theorem setT_marks (σ : St) (t : Nat) (x : TSt) : (σ.setT t x).marks = σ.marks := rfl

theorem inv_setT {e : Env} {σ : St} (t : Nat) (x : TSt) (h : Inv e σ) : Inv e (σ.setT t x) :=
  Inv.of_eq (σ := σ) rfl rfl h

/-- how `bookResources` ends: without trying to book (no allocation, nobody selected, or the team gate is shut), the state
    untouched; or with the booking loop run over the selection on the levelled state, after which `markStart` runs and
    `done` grows if somebody was booked -/
theorem bookResources_cases {P : St × Walk → Prop} (e : Env) (σ : St) (t : Nat) (w : Walk)
    (skip : ∀ s, P (σ, { w with selected := s }))
    (tried : ∀ sel, teamGateFails e σ t { w with selected := some sel } sel = false →
      ∀ acc, acc = bookAll e (leveled e σ t w.cur sel) t { w with selected := some sel } sel →
        P (if acc.any then
            (markStart e acc.σ t { w with selected := some sel },
             { w with selected := some sel, done := w.done + acc.total, last := acc.last })
           else (acc.σ, { w with selected := some sel, last := acc.last }))) :
    P (bookResources e σ t w) := by
  unfold bookResources
  generalize selectedOf e σ t w = sel
  -- case by case with `rw [if_pos _]`, so that `P` is never unfolded
  by_cases h1 : (!(e.taskD t).hasAlloc) = true
  · rw [if_pos h1]
    exact skip w.selected
  rw [if_neg h1]
  simp only []
  by_cases h2 : sel.isEmpty = true
  · rw [if_pos h2]
    exact skip _
  rw [if_neg h2]
  by_cases h3 : teamGateFails e σ t { w with selected := some sel } sel = true
  · rw [if_pos h3]
    exact skip _
  rw [if_neg h3]
  exact tried sel ((Bool.not_eq_true _).mp h3) _ rfl

theorem bookResources_walk (e : Env) (σ : St) (t : Nat) (w : Walk) :
    (bookResources e σ t w).2.cur = w.cur ∧ (bookResources e σ t w).2.offset = w.offset := by
  refine bookResources_cases (P := fun p => p.2.cur = w.cur ∧ p.2.offset = w.offset) e σ t w (fun _ => ⟨rfl, rfl⟩)
    (fun sel _ acc _ => ?_)
  split <;> exact ⟨rfl, rfl⟩

theorem release_leaf (e : Env) (s : Slot) (t : Nat) (a : Rat) (hlf : (e.taskD t).leaf = true)
    (h : ∀ x ∈ s.usage, (e.taskD x.1).leaf = true) : ∀ x ∈ (s.release t a).usage, (e.taskD x.1).leaf = true := by
  intro x hx
  unfold Slot.release at hx
  cases hu : usageOf s.usage t with
  | none => simp only [hu] at hx; exact h x hx
  | some b =>
    simp only [hu] at hx
    split at hx
    · rcases mem_setUsage hx with h' | h'
      · exact h x h'
      · rw [h']; exact hlf
    · exact h x hx

/-- the tail release of one slot keeps the invariant -/
theorem releaseAt_inv (e : Env) (σ : St) (r : Nat) (i : Int) (t : Nat) (a : Rat) (h : Inv e σ)
    (hlf : (e.taskD t).leaf = true) (ha : 0 ≤ a) :
    Inv e { σ with led := σ.led.set r i ((σ.led.get r i).release t a) } := by
  refine ⟨fun r' i' => ?_, fun r' i' => ?_, h.cnt, fun r' i' x => ?_⟩
  · simp only [Ledger.get_set]
    split
    · exact release_inv e.G _ t _ ha (h.slot r i)
    · exact h.slot r' i'
  · simp only [Ledger.get_set]
    split
    · rename_i heq
      intro hne
      rw [← heq.1, ← heq.2]; exact h.shift r i (mt (release_usage_nil_iff _ _ _).mpr hne)
    · exact h.shift r' i'
  · simp only [Ledger.get_set]
    split
    · exact release_leaf e _ t _ hlf (h.leafTask r i) x
    · exact h.leafTask r' i' x

/-- a walk never comes back: the slot under the cursor is not among those it has passed -/
theorem cur_not_visited {fwd : Bool} {cur : Int} {vis : List Int}
    (h : ∀ i ∈ vis, (if fwd then i < cur else cur < i)) : cur ∉ vis := fun hin => by
  have := h cur hin
  split at this <;> exact Int.lt_irrefl _ this

/-- … and after a step the slot it leaves is among them -/
theorem visited_step {fwd : Bool} {cur : Int} {vis : List Int}
    (h : ∀ i ∈ vis, (if fwd then i < cur else cur < i)) :
    ∀ i ∈ cur :: vis, (if fwd then i < cur + (if fwd then 1 else -1) else cur + (if fwd then 1 else -1) < i) := by
  intro i hi
  rcases List.mem_cons.mp hi with h1 | h1
  · subst h1; cases fwd <;> simp <;> omega
  · have := h i h1
    cases fwd <;> simp at this ⊢ <;> omega

theorem rat_min_eq_left {x y : Rat} (h : x ≤ y) : min x y = x := by rw [Rat.min_def, if_pos h]

theorem rat_max_eq_right {x y : Rat} (h : x ≤ y) : max x y = y := by rw [Rat.max_def, if_pos h]

/-- effort per second of a resource with positive hourly efficiency -/
theorem rate_pos (eff : Rat) (h : 0 < eff) : 0 < eff / 3600 := by
  rw [Rat.div_def]
  exact Rat.mul_pos h (Rat.inv_pos.2 (by decide))

theorem needSecs_nonneg (e : Env) (σ : St) (t : Nat) (w : Walk) (before : Rat) (r : Nat) (wf : WF e)
    (h : Inv e σ) (hb : before ≤ (e.taskD t).effort) : 0 ≤ needSecs e σ t w before r := by
  unfold needSecs
  simp only []
  have hG := G_rat_nonneg wf
  have h0 : 0 ≤ (if (e.resD r).eff > 0 then ((e.taskD t).effort - before) / ((e.resD r).eff / 3600) else (e.G : Rat)) := by
    split
    · rename_i hpos
      exact rat_div_nonneg _ _ ((Rat.le_iff_sub_nonneg _ _).1 hb) (rate_pos _ hpos)
    · exact hG
  have hbk : 0 ≤ (usageOf (σ.led.get r w.cur).usage t).getD (e.G : Rat) := by
    cases hu : usageOf (σ.led.get r w.cur).usage t with
    | none => simpa using hG
    | some b => simpa using (h.slot r w.cur).entries_nonneg _ (usageOf_mem hu)
  exact Std.le_min_iff.2 ⟨Std.le_min_iff.2 ⟨h0, hG⟩, hbk⟩

theorem walkOk_advance (e : Env) (t : Nat) (wf : WF e) (fwd : Bool) (w w1 : Walk) (h : WalkOk e t w1) :
    WalkOk e t (advance fwd w w1) :=
  ⟨Rat.le_refl, G_rat_nonneg wf, h.done_le⟩

theorem earliestStart_ge (e : Env) (σ : St) (deps : List Dep) (base : Int) : base ≤ earliestStart e σ deps base := by
  unfold earliestStart
  apply foldl_ge_init
  intro acc dp; split
  · exact Int.le_max_left _ _
  · exact Int.le_refl _

theorem time_succ (e : Env) (i : Int) : e.time (i + 1) = e.time i + e.G := by
  unfold Env.time; rw [Int.add_mul]; omega

/-- a date at or after the project start lies in the slot that `idx` gives it -/
theorem idx_floor (e : Env) (hG : 0 < e.G) (t : Int) (ht : e.start ≤ t) :
    e.time (e.idx t) ≤ t ∧ t < e.time (e.idx t + 1) :=
  (Board.mk e.start e.stop e.G).rawIdx_floor hG ht

/-- the offset of a bound inside its slot is a whole number of seconds below the slot length -/
theorem cursorOf_off (e : Env) (wf : WF e) (earliest : Int) (hge : e.start ≤ earliest) :
    0 ≤ (cursorOf e earliest).2 ∧ (cursorOf e earliest).2 ≤ (e.G : Rat) - 1 := by
  obtain ⟨hlo, hhi⟩ := idx_floor e wf.G_pos earliest hge
  rw [time_succ] at hhi
  have hG1 : (1 : Rat) ≤ (e.G : Rat) := by exact_mod_cast (wf.G_pos : (1 : Int) ≤ e.G)
  unfold cursorOf
  simp only []
  split
  · have h2 : earliest - e.time (e.idx earliest) ≤ e.G - 1 := by omega
    have h3 : ((earliest - e.time (e.idx earliest) : Int) : Rat) ≤ ((e.G - 1 : Int) : Rat) := by exact_mod_cast h2
    have h4 : ((e.G - 1 : Int) : Rat) = (e.G : Rat) - 1 := by push_cast; rfl
    exact ⟨by exact_mod_cast Int.sub_nonneg_of_le hlo, h4 ▸ h3⟩
  · exact ⟨Rat.le_refl, (Rat.le_iff_sub_nonneg _ _).1 hG1⟩

theorem initCursor_bounds (e : Env) (σ : St) (t : Nat) (wf : WF e) :
    0 ≤ (initCursor e σ t).2 ∧ (initCursor e σ t).2 ≤ (e.G : Rat) - 1 := by
  have hG1 : (1 : Rat) ≤ (e.G : Rat) := by exact_mod_cast (wf.G_pos : (1 : Int) ≤ e.G)
  have zero : (0 : Rat) ≤ 0 ∧ (0 : Rat) ≤ (e.G : Rat) - 1 := ⟨Rat.le_refl, (Rat.le_iff_sub_nonneg _ _).1 hG1⟩
  unfold initCursor
  simp only []
  split
  · split
    · split
      · exact zero
      · exact cursorOf_off e wf _ (Int.le_trans (by omega) (earliestStart_ge e σ _ _))
    · exact cursorOf_off e wf _ (earliestStart_ge e σ _ _)
  · split <;> exact zero

theorem initCursor_off (e : Env) (σ : St) (t : Nat) (wf : WF e) :
    0 ≤ (initCursor e σ t).2 ∧ (initCursor e σ t).2 ≤ (e.G : Rat) := by
  have := initCursor_bounds e σ t wf
  exact ⟨this.1, by grind⟩

theorem initCursor_room (e : Env) (σ : St) (t : Nat) (wf : WF e) : (initCursor e σ t).2 ≤ (e.G : Rat) - 1 / 1000000 := by
  have := initCursor_bounds e σ t wf
  grind

end SP
