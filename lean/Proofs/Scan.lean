import Model.Scan
/-!
The scan loop of `Model/Scan` returns exactly the maximal runs: `ScanInv` says what the accumulator holds after the first `n`
positions (the closed maximal runs so far and the start of the open one), `scanInv_step` keeps it and `scanInv_fold` carries
it through the fold.  Used by C13 and C17.
-/
namespace SP

/-- `[a, b)` is a maximal run of `q` that starts at or after `lo` and is closed before `k` -/
def ClosedRun (q : Int → Bool) (lo k a b : Int) : Prop :=
  lo ≤ a ∧ a < b ∧ b < k ∧ (∀ i, a ≤ i → i < b → q i = true) ∧ (a = lo ∨ q (a - 1) = false) ∧ q b = false

/-- the loop body with the two conjuncts of its guard folded into one predicate -/
def qStep (q : Int → Bool) (s e : Int) (m : Nat) (st : ScanSt) (idx : Int) : ScanSt :=
  if q idx then
    { st with start := if st.dur = 0 then idx else st.start, dur := st.dur + 1 }
  else if st.dur > 0 then
    { dur := 0, start := 0,
      acc := if st.dur ≥ m then st.acc ++ [(max st.start s, min idx e)] else st.acc }
  else st

structure ScanInv (q : Int → Bool) (s e : Int) (m : Nat) (lo k : Int) (st : ScanSt) : Prop where
  acc : ∀ x, x ∈ st.acc ↔ ∃ a b, ClosedRun q lo k a b ∧ (m : Int) ≤ b - a ∧ x = (max a s, min b e)
  open_ : st.dur > 0 → st.start = k - st.dur ∧ lo ≤ st.start ∧
            (∀ i, st.start ≤ i → i < k → q i = true) ∧ (st.start = lo ∨ q (st.start - 1) = false)
  idle : st.dur = 0 → (k = lo ∨ q (k - 1) = false)

theorem scanInv_init (q : Int → Bool) (s e : Int) (m : Nat) (lo : Int) :
    ScanInv q s e m lo lo { dur := 0, start := 0, acc := [] } := by
  refine ⟨?_, ?_, ?_⟩
  · intro x
    simp only [List.not_mem_nil, false_iff]
    rintro ⟨a, b, ⟨h1, h2, h3, _⟩, _⟩
    omega
  · intro h; simp at h
  · intro _; exact Or.inl rfl

theorem closedRun_succ (q : Int → Bool) (lo k a b : Int) :
    ClosedRun q lo (k + 1) a b ↔ ClosedRun q lo k a b ∨ (b = k ∧ ClosedRun q lo (k + 1) a k) := by
  constructor
  · intro h
    by_cases hb : b = k
    · exact Or.inr ⟨hb, hb ▸ h⟩
    · exact Or.inl ⟨h.1, h.2.1, Int.lt_iff_le_and_ne.mpr ⟨Int.lt_add_one_iff.mp h.2.2.1, hb⟩, h.2.2.2⟩
  · rintro (h | ⟨rfl, h⟩)
    · exact ⟨h.1, h.2.1, Int.lt_add_one_iff.mpr (Int.le_of_lt h.2.2.1), h.2.2.2⟩
    · exact h

/-- a left-maximal start (`a' = lo` or `q` false just before it) cannot lie strictly inside an all-true stretch `[a, k)` -/
theorem no_earlier_start {q : Int → Bool} {lo k a a' : Int} (hlo : lo ≤ a) (h : a < a') (hk : a' ≤ k)
    (run : ∀ i, a ≤ i → i < k → q i = true) (left : a' = lo ∨ q (a' - 1) = false) : False := by
  rcases left with h' | h'
  · omega
  · have := run (a' - 1) (by omega) (by omega)
    rw [h'] at this; cases this

theorem acc_keep {q : Int → Bool} {s e : Int} {m : Nat} {lo k : Int} {acc : List (Int × Int)}
    (hno : ∀ a, ¬ ClosedRun q lo (k + 1) a k)
    (hacc : ∀ x, x ∈ acc ↔ ∃ a b, ClosedRun q lo k a b ∧ (m : Int) ≤ b - a ∧ x = (max a s, min b e)) (x : Int × Int) :
    x ∈ acc ↔ ∃ a b, ClosedRun q lo (k + 1) a b ∧ (m : Int) ≤ b - a ∧ x = (max a s, min b e) := by
  rw [hacc x]
  constructor
  · rintro ⟨a, b, hc, r⟩
    exact ⟨a, b, (closedRun_succ q lo k a b).2 (Or.inl hc), r⟩
  · rintro ⟨a, b, hc, r⟩
    rcases (closedRun_succ q lo k a b).1 hc with h | ⟨rfl, h⟩
    · exact ⟨a, b, h, r⟩
    · exact absurd h (hno a)

theorem scanInv_step (q : Int → Bool) (s e : Int) (m : Nat) (lo k : Int) (st : ScanSt) (hk : lo ≤ k)
    (h : ScanInv q s e m lo k st) : ScanInv q s e m lo (k + 1) (qStep q s e m st k) := by
  obtain ⟨hacc, hopen, hidle⟩ := h
  unfold qStep
  by_cases hq : q k = true
  · -- the run continues or starts; no run ends at `k`
    simp only [hq, if_true]
    refine ⟨acc_keep (fun a hc => by rw [hc.2.2.2.2.2] at hq; cases hq) hacc, fun _ => ?_, fun h => absurd h (Nat.succ_ne_zero _)⟩
    by_cases hd : st.dur = 0
    · simp only [hd, if_true]
      refine ⟨by simp, hk, fun i hi1 hi2 => ?_, hidle hd⟩
      rw [Int.le_antisymm (Int.lt_add_one_iff.mp hi2) hi1]; exact hq
    · obtain ⟨o1, o2, o3, o4⟩ := hopen (Nat.pos_of_ne_zero hd)
      simp only [hd, if_false]
      refine ⟨by simp only [Int.natCast_add]; omega, o2, fun i hi1 hi2 => ?_, o4⟩
      by_cases hik : i = k
      · rw [hik]; exact hq
      · exact o3 i hi1 (Int.lt_iff_le_and_ne.mpr ⟨Int.lt_add_one_iff.mp hi2, hik⟩)
  · have hqf : q k = false := by simpa using hq
    simp only [hqf, Bool.false_eq_true, if_false]
    by_cases hd : st.dur > 0
    · -- the open run `[st.start, k)` is closed: it is the one run that ends at `k`
      obtain ⟨o1, o2, o3, o4⟩ := hopen hd
      simp only [hd, if_true]
      have hsk : st.start < k := by omega
      have huniq : ∀ a, ClosedRun q lo (k + 1) a k ↔ a = st.start := by
        intro a
        constructor
        · rintro ⟨c1, c2, _, c4, c5, _⟩
          exact Int.le_antisymm (Int.not_lt.mp fun h => no_earlier_start o2 h (Int.le_of_lt c2) o3 c5)
            (Int.not_lt.mp fun h => no_earlier_start c1 h (Int.le_of_lt hsk) c4 o4)
        · rintro rfl
          exact ⟨o2, hsk, Int.lt_add_one_iff.mpr (Int.le_refl k), o3, o4, hqf⟩
      refine ⟨fun x => ?_, fun h => absurd h (Nat.lt_irrefl 0), fun _ => Or.inr (by simpa using hqf)⟩
      have hrun : ∀ a b, ClosedRun q lo (k + 1) a b ↔ ClosedRun q lo k a b ∨ (a = st.start ∧ b = k) := by
        intro a b
        rw [closedRun_succ]
        constructor
        · rintro (h | ⟨rfl, h⟩)
          · exact Or.inl h
          · exact Or.inr ⟨(huniq a).1 h, rfl⟩
        · rintro (h | ⟨rfl, rfl⟩)
          · exact Or.inl h
          · exact Or.inr ⟨rfl, (huniq _).2 rfl⟩
      by_cases hm : st.dur ≥ m
      · simp only [hm, if_true, List.mem_append, List.mem_singleton]
        rw [hacc x]
        constructor
        · rintro (⟨a, b, hc, hmm, hx⟩ | hx)
          · exact ⟨a, b, (hrun a b).2 (Or.inl hc), hmm, hx⟩
          · exact ⟨st.start, k, (hrun _ _).2 (Or.inr ⟨rfl, rfl⟩), by omega, hx⟩
        · rintro ⟨a, b, hc, hmm, hx⟩
          rcases (hrun a b).1 hc with h | ⟨rfl, rfl⟩
          · exact Or.inl ⟨a, b, h, hmm, hx⟩
          · exact Or.inr hx
      · simp only [hm, if_false]
        rw [hacc x]
        constructor
        · rintro ⟨a, b, hc, hmm, hx⟩
          exact ⟨a, b, (hrun a b).2 (Or.inl hc), hmm, hx⟩
        · rintro ⟨a, b, hc, hmm, hx⟩
          rcases (hrun a b).1 hc with h | ⟨rfl, rfl⟩
          · exact ⟨a, b, h, hmm, hx⟩
          · omega
    · -- nothing is open and nothing starts; no run ends at `k`
      have hd0 : st.dur = 0 := by omega
      simp only [hd, if_false]
      refine ⟨acc_keep (fun a hc => ?_) hacc, fun h => absurd h hd, fun _ => Or.inr (by simpa using hqf)⟩
      exact no_earlier_start hc.1 hc.2.1 (Int.le_refl k) hc.2.2.2.1 (hidle hd0)

def scanIdxs (lo : Int) (n : Nat) : List Int := (List.range n).map (fun (k : Nat) => lo + (k : Int))

theorem scanIdxs_succ (lo : Int) (n : Nat) : scanIdxs lo (n + 1) = scanIdxs lo n ++ [lo + (n : Int)] := by
  simp [scanIdxs, List.range_succ]

theorem scanInv_fold (q : Int → Bool) (s e : Int) (m : Nat) (lo : Int) (n : Nat) :
    ScanInv q s e m lo (lo + n) ((scanIdxs lo n).foldl (qStep q s e m) { dur := 0, start := 0, acc := [] }) := by
  induction n with
  | zero => simpa [scanIdxs] using scanInv_init q s e m lo
  | succ n ih =>
    rw [scanIdxs_succ, List.foldl_append]
    simp only [List.foldl_cons, List.foldl_nil]
    have := scanInv_step q s e m lo (lo + n) _ (by omega) ih
    have e1 : lo + ((n + 1 : Nat) : Int) = lo + (n : Int) + 1 := by omega
    rw [e1]; exact this

end SP
