import Proofs.SchedInv
import Proofs.Walk
import Proofs.WFCheck
import Model.Elab
/-!
C11: the explicit fuel of the slot walk is never the reason it stops.  (The code has no fuel: its `while` loop ends when the
task is finished or the cursor leaves the horizon.  The model's walk does exactly that whenever the fuel exceeds the number of
slots between the cursor and the edge of the horizon, and `scheduleTask` supplies more than that.)
-/
namespace SP

/-- slots left between the cursor and the edge of the horizon, in the direction of the walk -/
def slotsLeft (e : Env) (fwd : Bool) (w : Walk) : Nat :=
  if fwd then (e.upper - w.cur + 1).toNat else (w.cur + 1).toNat

theorem walkLoop_fuel_enough (e : Env) (t : Nat) (fwd : Bool) (fuel : Nat) (σ : St) (w : Walk)
    (h : slotsLeft e fwd w < fuel) : walkLoop e t fwd fuel σ w = walkLoop e t fwd (fuel + 1) σ w := by
  induction fuel generalizing σ w with
  | zero => omega
  | succ f ih =>
    rw [walkLoop.eq_def e t fwd (f + 1 + 1), walkLoop.eq_def e t fwd (f + 1)]
    simp only []
    have hcur := advance_cur fwd w (scheduleSlot e σ t w).2.1
    rw [scheduleSlot_cur e σ t w] at hcur
    generalize scheduleSlot e σ t w = r at hcur ⊢
    generalize advance fwd w r.2.1 = w2 at hcur ⊢
    by_cases hfin : (!r.2.2) = true
    · rw [if_pos hfin, if_pos hfin]
    rw [if_neg hfin, if_neg hfin]
    by_cases hin : (decide (w2.cur < 0) || decide (w2.cur > e.upper)) = true
    · rw [if_pos hin, if_pos hin]
    rw [if_neg hin, if_neg hin]
    simp only [Bool.or_eq_true, decide_eq_true_eq, not_or, Int.not_lt] at hin
    -- the walk goes on, one slot nearer to the edge of the horizon
    apply ih
    unfold slotsLeft at h ⊢
    cases fwd with
    | true =>
      simp only [if_true] at h hcur ⊢
      omega
    | false =>
      simp only [Bool.false_eq_true, if_false] at h hcur ⊢
      omega

theorem walkLoop_fuel_irrelevant (e : Env) (t : Nat) (fwd : Bool) (fuel k : Nat) (σ : St) (w : Walk)
    (h : slotsLeft e fwd w < fuel) : walkLoop e t fwd (fuel + k) σ w = walkLoop e t fwd fuel σ w := by
  induction k with
  | zero => rfl
  | succ k ih =>
    rw [← ih, ← Nat.add_assoc]
    exact (walkLoop_fuel_enough e t fwd (fuel + k) σ w (by omega)).symm

/-- the fuel `scheduleTask` hands to the walk (`size + 3`) exceeds the slots left whenever the cursor starts inside the
    horizon and the scoreboard covers the horizon -/
theorem scheduleTask_fuel_ample (e : Env) (fwd : Bool) (w : Walk) (hs : e.upper ≤ e.size + 1)
    (hin : ¬ (w.cur < 0 ∨ w.cur > e.upper)) : slotsLeft e fwd w < e.size.toNat + 3 := by
  unfold slotsLeft
  cases fwd <;> simp only [if_true, Bool.false_eq_true, if_false] <;> omega

/-- the backward search for a working slot stops at slot 0 at the latest: fuel beyond the cursor changes nothing -/
theorem backToWork_fuel_enough (e : Env) (p : Int → Bool) (fuel : Nat) (c0 : Int) (h : c0.toNat < fuel) :
    backToWork e p fuel c0 = backToWork e p (fuel + 1) c0 := by
  induction fuel generalizing c0 with
  | zero => omega
  | succ f ih =>
    rw [backToWork.eq_def e p (f + 1 + 1)]
    rw [backToWork.eq_def e p (f + 1)]
    simp only []
    split
    · rename_i hc
      simp only [Bool.and_eq_true, decide_eq_true_eq] at hc
      exact ih (c0 - 1) (by omega)
    · rfl

/-- the forward search for a project working slot stops at the horizon at the latest -/
theorem fwdToWork_fuel_enough (e : Env) (fuel : Nat) (c0 : Int) (h : (e.upper - c0).toNat < fuel) :
    fwdToWork e fuel c0 = fwdToWork e (fuel + 1) c0 := by
  induction fuel generalizing c0 with
  | zero => omega
  | succ f ih =>
    rw [fwdToWork.eq_def e (f + 1 + 1)]
    rw [fwdToWork.eq_def e (f + 1)]
    simp only []
    split
    · rename_i hc
      simp only [Bool.and_eq_true, decide_eq_true_eq] at hc
      exact ih (c0 + 1) (by omega)
    · rfl

theorem tdiv_le_ceilDiv (a b : Int) (hb : 0 < b) : Int.tdiv a b ≤ ceilDiv a b := by
  unfold ceilDiv
  by_cases ha : 0 ≤ a
  · rw [Int.tdiv_eq_ediv_of_nonneg ha]
    have h1 := Int.mul_ediv_add_emod a b
    have h2 := Int.emod_nonneg a (Int.ne_of_gt hb)
    have h3 := Int.emod_lt_of_pos a hb
    have h4 := Int.mul_ediv_add_emod (-a) b
    have h5 := Int.emod_nonneg (-a) (Int.ne_of_gt hb)
    have h6 := Int.emod_lt_of_pos (-a) hb
    generalize a / b = q at *
    generalize (-a) / b = q' at *
    generalize a % b = r at *
    generalize (-a) % b = r' at *
    have : b * (q + q') = -(r + r') := by rw [Int.mul_add]; omega
    have hq : q + q' ≤ 0 := by
      by_cases hpos : 0 < q + q'
      · have : b * (q + q') > 0 := Int.mul_pos hb hpos
        omega
      · omega
    omega
  · have ha' : 0 ≤ -a := by omega
    have : Int.tdiv a b = -(Int.tdiv (-a) b) := by rw [Int.neg_tdiv]; omega
    rw [this, Int.tdiv_eq_ediv_of_nonneg ha']
    omega

theorem elaborate_horizon (p : RawProj) (hG : 0 < p.G) : (elaborate p).env.upper ≤ (elaborate p).env.size + 1 := by
  show Int.tdiv (stopRelOf p - 0) p.G ≤ ceilDiv (stopRelOf p) p.G + 1 + 1
  have := tdiv_le_ceilDiv (stopRelOf p) p.G hG
  rw [Int.sub_zero]
  omega
/-! ### the completion estimate of `_selectBestResources` -/

/-- the estimate loop (`while remaining > 0 and idx < size`) stops at the end of the scoreboard at the latest -/
theorem estimateAux_fuel_enough (e : Env) (σ : St) (r : Nat) (perSlot : Rat) (fuel : Nat) (cur : Int) (rem : Rat)
    (h : (e.size - cur).toNat < fuel) :
    estimateAux e σ r perSlot fuel cur rem = estimateAux e σ r perSlot (fuel + 1) cur rem := by
  induction fuel generalizing cur rem with
  | zero => omega
  | succ f ih =>
    rw [estimateAux.eq_def e σ r perSlot (f + 1 + 1), estimateAux.eq_def e σ r perSlot (f + 1)]
    simp only []
    by_cases hc : (decide (rem > 0) && decide (cur < e.size)) = true
    · rw [if_pos hc, if_pos hc]
      simp only [Bool.and_eq_true, decide_eq_true_eq] at hc
      exact ih (cur + 1) _ (by omega)
    · rw [if_neg hc, if_neg hc]

/-- `estimate` hands the loop `size + 2` units of fuel: ample from any cursor inside the scoreboard -/
theorem estimate_fuel_ample (e : Env) (cur : Int) (h : 0 ≤ cur) : (e.size - cur).toNat < e.size.toNat + 2 := by omega

/-! ### the ALAP marking (`_markTaskALAP`): a depth-first walk with a processed set -/

/-- cost of the tasks of `l` not yet processed: one step to pop each, plus the predecessors it will push -/
def restCost (e : Env) (processed : List Nat) : List Nat → Nat
  | [] => 0
  | t :: ts => (if processed.contains t then 0 else (e.taskD t).deps.length + 1) + restCost e processed ts

theorem restCost_add_not_mem (e : Env) (processed : List Nat) (x : Nat) (l : List Nat) (h : x ∉ l) :
    restCost e (x :: processed) l = restCost e processed l := by
  induction l with
  | nil => rfl
  | cons t ts ih =>
    have hne : t ≠ x := fun heq => h (heq ▸ List.mem_cons_self)
    have hts : x ∉ ts := fun hm => h (List.mem_cons_of_mem _ hm)
    simp only [restCost, List.contains_cons, ih hts]
    have : (t == x) = false := by simpa using hne
    simp [this]

theorem restCost_add_mem (e : Env) (processed : List Nat) (x : Nat) (l : List Nat) (hnd : l.Nodup) (h : x ∈ l)
    (hp : processed.contains x = false) :
    restCost e (x :: processed) l + ((e.taskD x).deps.length + 1) = restCost e processed l := by
  induction l with
  | nil => cases h
  | cons t ts ih =>
    have hnd' := List.nodup_cons.mp hnd
    rcases List.mem_cons.mp h with heq | hm
    · subst heq
      simp only [restCost, List.contains_cons, beq_self_eq_true, Bool.true_or, if_true, hp, Bool.false_eq_true, if_false]
      rw [restCost_add_not_mem e processed x ts hnd'.1]
      omega
    · have hne : t ≠ x := fun heq => hnd'.1 (heq ▸ hm)
      have : (t == x) = false := by simpa using hne
      simp only [restCost, List.contains_cons, this, Bool.false_or]
      have := ih hnd'.2 hm
      omega

theorem restCost_add_le (e : Env) (processed : List Nat) (x : Nat) (l : List Nat) :
    restCost e (x :: processed) l ≤ restCost e processed l := by
  induction l with
  | nil => exact Nat.le_refl _
  | cons t ts ih =>
    simp only [restCost, List.contains_cons]
    by_cases h1 : (t == x) = true
    · simp only [h1, Bool.true_or, if_true]; omega
    · simp only [h1, Bool.false_or]; omega

/-- the measure that every step of `markAlap` decreases -/
def alapMeasure (e : Env) (stack processed : List Nat) : Nat :=
  stack.length + restCost e processed (List.range e.tasks.size)

/-- a processed task is dropped from the stack -/
theorem alapMeasure_pop (e : Env) (t : Nat) (rest processed : List Nat) :
    alapMeasure e rest processed < alapMeasure e (t :: rest) processed := by
  unfold alapMeasure
  simp only [List.length_cons]
  omega

/-- a task is marked processed and nothing is pushed -/
theorem alapMeasure_mark (e : Env) (t : Nat) (rest processed : List Nat) :
    alapMeasure e rest (t :: processed) < alapMeasure e (t :: rest) processed := by
  have hle := restCost_add_le e processed t (List.range e.tasks.size)
  unfold alapMeasure
  simp only [List.length_cons]
  omega

/-- the predecessors of a task are pushed: the task must be in range, and its cost is taken off -/
theorem alapMeasure_push (e : Env) (t : Nat) (rest processed : List Nat) (hc : processed.contains t = false) :
    alapMeasure e ((e.taskD t).deps.map (·.target) ++ rest) (t :: processed) < alapMeasure e (t :: rest) processed := by
  unfold alapMeasure
  simp only [List.length_append, List.length_map, List.length_cons]
  by_cases hin : t < e.tasks.size
  · have := restCost_add_mem e processed t (List.range e.tasks.size) List.nodup_range (List.mem_range.mpr hin) hc
    omega
  · have hle := restCost_add_le e processed t (List.range e.tasks.size)
    rw [taskD_oob e t (by omega)]
    simp only [List.length_nil, Nat.zero_add]
    omega

/-- **the fuel of the ALAP marking is never what stops it** once it exceeds the measure -/
theorem markAlap_fuel_enough (e : Env) (fuel : Nat) (stack processed : List Nat) (σ : St)
    (h : alapMeasure e stack processed < fuel) :
    markAlap e fuel stack processed σ = markAlap e (fuel + 1) stack processed σ := by
  induction fuel generalizing stack processed σ with
  | zero => omega
  | succ f ih =>
    cases stack with
    | nil => rw [markAlap.eq_def e (f + 1 + 1), markAlap.eq_def e (f + 1)]
    | cons t rest =>
      -- whichever way the step goes, it goes on from a configuration of smaller measure
      have step : ∀ stack' processed' σ', alapMeasure e stack' processed' < alapMeasure e (t :: rest) processed →
          markAlap e f stack' processed' σ' = markAlap e (f + 1) stack' processed' σ' :=
        fun _ _ _ hlt => ih _ _ _ (Nat.lt_of_lt_of_le hlt (Nat.le_of_lt_succ h))
      rw [markAlap.eq_def e (f + 1 + 1), markAlap.eq_def e (f + 1)]
      simp only []
      by_cases hc : processed.contains t = true
      · rw [if_pos hc, if_pos hc]
        exact step _ _ _ (alapMeasure_pop e t rest processed)
      · rw [if_neg hc, if_neg hc]
        by_cases hl : (!(e.taskD t).leaf) = true
        · rw [if_pos hl, if_pos hl]
          exact step _ _ _ (alapMeasure_mark e t rest processed)
        · rw [if_neg hl, if_neg hl]
          by_cases hf : ((σ.tst t).forward && (σ.tst t).start.isSome) = true
          · rw [if_pos hf, if_pos hf]
            exact step _ _ _ (alapMeasure_mark e t rest processed)
          · rw [if_neg hf, if_neg hf]
            exact step _ _ _ (alapMeasure_push e t rest processed (Bool.eq_false_iff.mpr hc))

/-- no task lists more predecessors than there are tasks (true of every project without repeated edges) -/
def DepsBounded (e : Env) : Prop := ∀ t, (e.taskD t).deps.length ≤ e.tasks.size

theorem restCost_le (e : Env) (hb : DepsBounded e) (processed : List Nat) (l : List Nat) :
    restCost e processed l ≤ l.length * (e.tasks.size + 1) := by
  induction l with
  | nil => simp [restCost]
  | cons t ts ih =>
    simp only [restCost, List.length_cons]
    have := hb t
    have h2 : (ts.length + 1) * (e.tasks.size + 1) = ts.length * (e.tasks.size + 1) + (e.tasks.size + 1) := by
      rw [Nat.add_mul]; omega
    split <;> omega

theorem restCost_le_mem (e : Env) (hb : DepsBounded e) (processed : List Nat) (a : Nat) (l : List Nat)
    (ha : a ∈ l) (hp : processed.contains a = true) :
    restCost e processed l + (e.tasks.size + 1) ≤ l.length * (e.tasks.size + 1) := by
  induction l with
  | nil => cases ha
  | cons t ts ih =>
    simp only [restCost, List.length_cons]
    have h2 : (ts.length + 1) * (e.tasks.size + 1) = ts.length * (e.tasks.size + 1) + (e.tasks.size + 1) := by
      rw [Nat.add_mul]; omega
    rcases List.mem_cons.mp ha with heq | hm
    · subst heq
      simp only [hp, if_true]
      have := restCost_le e hb processed ts
      omega
    · have := ih hm
      have := hb t
      split <;> omega

/-- **the fuel `propagateAlap` hands to the marking of one anchor (`n² + n + 1`) exceeds the measure**, for every anchor `a`
    among the tasks, whatever was processed before -/
theorem markAlap_fuel_ample (e : Env) (hb : DepsBounded e) (a : Nat) (ha : a < e.tasks.size) (processed : List Nat)
    (hp : processed.contains a = true) (preds : List Nat) (hpl : preds.length ≤ (e.taskD a).deps.length) :
    alapMeasure e preds processed < e.tasks.size * e.tasks.size + e.tasks.size + 1 := by
  unfold alapMeasure
  have h1 := restCost_le_mem e hb processed a (List.range e.tasks.size) (List.mem_range.mpr ha) hp
  rw [List.length_range] at h1
  have h2 := hb a
  have h3 : e.tasks.size * (e.tasks.size + 1) = e.tasks.size * e.tasks.size + e.tasks.size := by
    rw [Nat.mul_add]; omega
  omega

end SP
