import Model.Macro
/-!
`blank_comments` (F38 repaired): a comment is, to everything that runs after it, the same amount of white space.

The scanner is read one character at a time (`blankStep`: the character written and the next state, given the rest of the text
it may look at); every lemma below goes through the two equations `blankGo_cons` and `endSt_cons`.
-/
namespace SP.Macro

/-- one character of `blankGo`: what is written and the state after it; `cs` is the rest of the text (looked at, not consumed) -/
def blankStep : BlankSt → Char → List Char → Char × BlankSt
  | .normal, c, cs =>
    if c = '"' ∨ c = '\'' then (c, .str c)
    else if c = '-' ∧ cs.take 3 = ['8', '<', '-'] then (c, .copy 3 true)
    else if c = '#' then (' ', .line)
    else if c = '/' ∧ cs.head? = some '/' then (' ', .line)
    else if c = '/' ∧ cs.head? = some '*' then (' ', .blockOpen)
    else (c, .normal)
  | .str q, c, _ => if c = q then (c, .normal) else (c, .str q)
  | .rich, c, cs => if c = '-' ∧ cs.take 3 = ['>', '8', '-'] then (c, .copy 3 false) else (c, .rich)
  | .copy k r, c, _ => if k ≤ 1 then (c, if r then .rich else .normal) else (c, .copy (k - 1) r)
  | .line, c, _ => if c = '\n' then (c, .normal) else (' ', .line)
  | .blockOpen, _, _ => (' ', .block)
  | .block, c, cs => if c = '*' ∧ cs.head? = some '/' then (' ', .blockClose) else (if c = '\n' then c else ' ', .block)
  | .blockClose, _, _ => (' ', .normal)

theorem blankGo_cons (st : BlankSt) (c : Char) (cs : List Char) :
    blankGo st (c :: cs) = (blankStep st c cs).1 :: blankGo (blankStep st c cs).2 cs := by
  have push : ∀ (P : Prop) [Decidable P] (a b : Char × BlankSt),
      (ite P a b).1 :: blankGo (ite P a b).2 cs = ite P (a.1 :: blankGo a.2 cs) (b.1 :: blankGo b.2 cs) := by
    intro P _ a b
    split <;> rfl
  cases st <;> simp only [blankGo, blankStep, push]

/-- the output never grows or shrinks: every character is copied or replaced by one blank -/
theorem blankGo_length (st : BlankSt) (s : List Char) : (blankGo st s).length = s.length := by
  induction s generalizing st with
  | nil => cases st <;> rfl
  | cons c cs ih => rw [blankGo_cons, List.length_cons, ih, List.length_cons]

/-- newlines stay where they are (line numbers of later error messages are unchanged) -/
theorem blankComments_length (s : List Char) : (blankComments s).length = s.length := blankGo_length .normal s

/-- a character that is no part of a comment or rich-text marker -/
def Safe (x : Char) : Prop := x ≠ '8' ∧ x ≠ '<' ∧ x ≠ '-' ∧ x ≠ '>' ∧ x ≠ '/' ∧ x ≠ '*'

/-- the scanner state after `u` when the text goes on with the character `x` -/
def endSt : BlankSt → List Char → Char → BlankSt
  | st, [], _ => st
  | .normal, c :: cs, x =>
    if c = '"' ∨ c = '\'' then endSt (.str c) cs x
    else if c = '-' ∧ (cs ++ [x]).take 3 = ['8', '<', '-'] then endSt (.copy 3 true) cs x
    else if c = '#' then endSt .line cs x
    else if c = '/' ∧ (cs ++ [x]).head? = some '/' then endSt .line cs x
    else if c = '/' ∧ (cs ++ [x]).head? = some '*' then endSt .blockOpen cs x
    else endSt .normal cs x
  | .str q, c :: cs, x => if c = q then endSt .normal cs x else endSt (.str q) cs x
  | .rich, c :: cs, x => if c = '-' ∧ (cs ++ [x]).take 3 = ['>', '8', '-'] then endSt (.copy 3 false) cs x else endSt .rich cs x
  | .copy k r, _ :: cs, x => if k ≤ 1 then endSt (if r then .rich else .normal) cs x else endSt (.copy (k - 1) r) cs x
  | .line, c :: cs, x => if c = '\n' then endSt .normal cs x else endSt .line cs x
  | .blockOpen, _ :: cs, x => endSt .block cs x
  | .block, c :: cs, x => if c = '*' ∧ (cs ++ [x]).head? = some '/' then endSt .blockClose cs x else endSt .block cs x
  | .blockClose, _ :: cs, x => endSt .normal cs x

theorem endSt_cons (st : BlankSt) (c : Char) (cs : List Char) (x : Char) :
    endSt st (c :: cs) x = endSt (blankStep st c (cs ++ [x])).2 cs x := by
  have push : ∀ (P : Prop) [Decidable P] (a b : Char × BlankSt),
      endSt (ite P a b).2 cs x = ite P (endSt a.2 cs x) (endSt b.2 cs x) := by
    intro P _ a b
    split <;> rfl
  cases st <;> simp only [endSt, blankStep, push]

/-- a look-ahead for the marker `p` does not see what stands behind `u` when the next character is none of the marker's -/
theorem take_eq_insensitive (u r1 r2 p : List Char) (x y : Char) (hx : x ∉ p) (hy : y ∉ p) :
    ((u ++ x :: r1).take p.length = p) = ((u ++ y :: r2).take p.length = p) := by
  by_cases h : p.length ≤ u.length
  · rw [List.take_append_of_le_length h, List.take_append_of_le_length h]
  · have key : ∀ (z : Char) (r : List Char), z ∉ p → (u ++ z :: r).take p.length ≠ p := by
      intro z r hz e
      obtain ⟨k, hk⟩ : ∃ k, p.length - u.length = k + 1 := ⟨p.length - u.length - 1, by omega⟩
      apply hz
      rw [← e, List.take_append, hk]
      simp
    simp [key x r1 hx, key y r2 hy]

theorem look1 (u : List Char) (x y k : Char) (r1 r2 : List Char) (hx : x ≠ k) (hy : y ≠ k) :
    ((u ++ x :: r1).head? = some k) = ((u ++ y :: r2).head? = some k) := by
  cases u with
  | nil => simp [hx, hy]
  | cons a rest => simp

theorem blankStep_safe (st : BlankSt) (a : Char) (u r1 r2 : List Char) (x y : Char) (hx : Safe x) (hy : Safe y) :
    blankStep st a (u ++ x :: r1) = blankStep st a (u ++ y :: r2) := by
  obtain ⟨x8, xlt, xm, xgt, xs, xa⟩ := hx
  obtain ⟨y8, ylt, ym, ygt, ys, ya⟩ := hy
  have h3o : ((u ++ x :: r1).take 3 = ['8', '<', '-']) = ((u ++ y :: r2).take 3 = ['8', '<', '-']) :=
    take_eq_insensitive u r1 r2 ['8', '<', '-'] x y (by simp [x8, xlt, xm]) (by simp [y8, ylt, ym])
  have h3c : ((u ++ x :: r1).take 3 = ['>', '8', '-']) = ((u ++ y :: r2).take 3 = ['>', '8', '-']) :=
    take_eq_insensitive u r1 r2 ['>', '8', '-'] x y (by simp [x8, xgt, xm]) (by simp [y8, ygt, ym])
  have h1s := look1 u x y '/' r1 r2 xs ys
  have h1a := look1 u x y '*' r1 r2 xa ya
  cases st <;> simp only [blankStep, h3o, h3c, h1s, h1a]

/-- two texts with a common prefix `u`, continued by safe characters: the scanner writes the same for `u` and is in the same
    state after it -/
theorem blankGo_prefix (x y : Char) (r1 r2 : List Char) (hx : Safe x) (hy : Safe y) (u : List Char) (st : BlankSt) :
    ∃ out, blankGo st (u ++ x :: r1) = out ++ blankGo (endSt st u x) (x :: r1) ∧
      blankGo st (u ++ y :: r2) = out ++ blankGo (endSt st u x) (y :: r2) := by
  induction u generalizing st with
  | nil => exact ⟨[], rfl, rfl⟩
  | cons a u ih =>
    -- the step on `a` is the one `endSt` takes, in both texts
    have e1 : blankStep st a (u ++ x :: r1) = blankStep st a (u ++ [x]) := blankStep_safe st a u r1 [] x x hx hx
    have e2 : blankStep st a (u ++ y :: r2) = blankStep st a (u ++ [x]) := blankStep_safe st a u r2 [] y x hy hx
    obtain ⟨out, i1, i2⟩ := ih (blankStep st a (u ++ [x])).2
    refine ⟨(blankStep st a (u ++ [x])).1 :: out, ?_, ?_⟩
    · rw [List.cons_append, blankGo_cons, e1, endSt_cons, i1]
      rfl
    · rw [List.cons_append, blankGo_cons, e2, endSt_cons, i2]
      rfl

theorem blankGo_line (c : List Char) (hc : ∀ x ∈ c, x ≠ '\n') (v : List Char) :
    blankGo .line (c ++ '\n' :: v) = List.replicate c.length ' ' ++ '\n' :: blankGo .normal v := by
  induction c with
  | nil => simp [blankGo_cons, blankStep]
  | cons x xs ih =>
    have hx : x ≠ '\n' := hc x List.mem_cons_self
    simp [blankGo_cons, blankStep, hx, ih (fun y hy => hc y (List.mem_cons_of_mem _ hy)), List.replicate_succ]

theorem blankGo_hash_comment (c : List Char) (hc : ∀ x ∈ c, x ≠ '\n') (v : List Char) :
    blankGo .normal ('#' :: c ++ '\n' :: v) = List.replicate (c.length + 1) ' ' ++ '\n' :: blankGo .normal v := by
  rw [List.cons_append, blankGo_cons, List.replicate_succ, List.cons_append, ← blankGo_line c hc v]
  simp [blankStep]

theorem blankGo_blanks (k : Nat) (w : List Char) :
    blankGo .normal (List.replicate k ' ' ++ '\n' :: w) = List.replicate k ' ' ++ '\n' :: blankGo .normal w := by
  induction k with
  | zero => simp [blankGo_cons, blankStep]
  | succ k ih =>
    rw [List.replicate_succ, List.cons_append, blankGo_cons, List.cons_append, ← ih]
    simp [blankStep]

theorem safe_hash : Safe '#' := by unfold Safe; decide
theorem safe_blank : Safe ' ' := by unfold Safe; decide

/-- **a comment anywhere is white space**: wherever the scanner is in its normal state after the text `u` (outside strings, rich
    text blocks and other comments — `endSt`), a `#` comment up to the end of its line gives exactly what the same number of
    blanks gives, whatever the comment contains -/
theorem comment_anywhere_is_whitespace (u c v : List Char) (hc : ∀ x ∈ c, x ≠ '\n')
    (hn : endSt .normal u '#' = .normal) :
    blankComments (u ++ '#' :: c ++ '\n' :: v) = blankComments (u ++ List.replicate (c.length + 1) ' ' ++ '\n' :: v) := by
  obtain ⟨out, h1, h2⟩ := blankGo_prefix '#' ' ' (c ++ '\n' :: v) (List.replicate c.length ' ' ++ '\n' :: v)
    safe_hash safe_blank u .normal
  rw [hn, ← List.cons_append, blankGo_hash_comment c hc v] at h1
  rw [hn, ← List.cons_append, ← List.replicate_succ, blankGo_blanks] at h2
  rw [blankComments, blankComments, List.append_assoc, h1, List.append_assoc, h2]

/-- **the comment is white space**: a `#` comment line in front of a text gives exactly what the same number of blanks gives —
    whatever the comment contains (macro definitions, macro calls, project headers, quotes) -/
theorem comment_is_whitespace (c : List Char) (hc : ∀ x ∈ c, x ≠ '\n') (v : List Char) :
    blankComments ('#' :: c ++ '\n' :: v) = blankComments (List.replicate (c.length + 1) ' ' ++ '\n' :: v) :=
  comment_anywhere_is_whitespace [] c v hc rfl

end SP.Macro
