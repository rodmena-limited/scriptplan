import Proofs.Frame
/-!
The scenario around one call of `scheduleTask`.  What the passes before the loop keep (`Kept`) and the state `loopStart` in
which the loop starts.  One round of the loop seen from the tasks it does not schedule (`round_fixed`, `round_other`,
`round_scheduled`) and from the work list (`round_rest`, `round_pending`, `round_done`).  The loop as equations (`pickLoop_step`, `pickLoop_none`) and as an induction
(`pickLoop_induct`, `scenario_induct`): a family of predicates kept by every round holds when the loop ends.
`finishScenario` leaves ledger and leaf tasks alone (`finishScenario_leafT`); no function resizes the task table (`*_size`).
-/
namespace SP

/-! What the passes keep, `Kept e t a b`: the `done` flag of any task, and of an effort leaf also `scheduled` and `start`. -/

def EffLeaf (e : Env) (t : Nat) : Prop :=
  (e.taskD t).leaf = true ∧ 0 < (e.taskD t).effort ∧ (e.taskD t).milestone = false

def Kept (e : Env) (t : Nat) (a b : TSt) : Prop :=
  b.done = a.done ∧ (EffLeaf e t → b.scheduled = a.scheduled ∧ b.start = a.start)

theorem kept_preorder (e : Env) : Preorder' (Kept e) :=
  ⟨fun _ _ => ⟨rfl, fun _ => ⟨rfl, rfl⟩⟩,
   fun _ _ _ _ h1 h2 => ⟨h2.1.trans h1.1, fun hel => ⟨(h2.2 hel).1.trans (h1.2 hel).1, (h2.2 hel).2.trans (h1.2 hel).2⟩⟩⟩

theorem projAlapT_eq (e : Env) (σ : St) (t : Nat) : ∃ b, projAlapT e σ t = { σ.tst t with forward := b } := by
  unfold projAlapT; simp only []; split
  · exact ⟨false, rfl⟩
  · exact ⟨(σ.tst t).forward, rfl⟩

theorem containerEndT_eq (e : Env) (σ0 σ : St) (t : Nat) : ∃ s, containerEndT e σ0 σ t = { σ.tst t with stop := s } := by
  unfold containerEndT
  simp only []
  generalize σ.tst t = ts
  cases inheritedEnd e σ0 t with
  | none => exact ⟨ts.stop, by simp only [ite_self]⟩
  | some ce =>
    simp only []
    split
    · exact ⟨ts.stop, rfl⟩
    · split
      · exact ⟨some ce, rfl⟩
      · exact ⟨ts.stop, rfl⟩

theorem projAlapT_kept (e : Env) (σ : St) (t : Nat) : Kept e t (σ.tst t) (projAlapT e σ t) := by
  obtain ⟨b, h⟩ := projAlapT_eq e σ t
  rw [h]; exact ⟨rfl, fun _ => ⟨rfl, rfl⟩⟩

theorem containerEndT_kept (e : Env) (σ0 σ : St) (t : Nat) : Kept e t (σ.tst t) (containerEndT e σ0 σ t) := by
  obtain ⟨s, h⟩ := containerEndT_eq e σ0 σ t
  rw [h]; exact ⟨rfl, fun _ => ⟨rfl, rfl⟩⟩

theorem prepassT_flags (e : Env) (σ : St) (t : Nat) :
    (prepassT e σ t).done = (σ.tst t).done ∧ (prepassT e σ t).forward = (σ.tst t).forward := by
  unfold prepassT
  simp only []
  cases (if (e.taskD t).startProvided then (σ.tst t).start else none) <;> cases (σ.tst t).stop <;>
    simp only [apply_ite TSt.forward, apply_ite TSt.done, ite_self, and_self]

theorem prepassT_done (e : Env) (σ : St) (t : Nat) : (prepassT e σ t).done = (σ.tst t).done := (prepassT_flags e σ t).1

theorem prepassT_forward (e : Env) (σ : St) (t : Nat) : (prepassT e σ t).forward = (σ.tst t).forward :=
  (prepassT_flags e σ t).2

theorem prepassT_effLeaf (e : Env) (σ : St) (t : Nat) (hel : EffLeaf e t) : prepassT e σ t = σ.tst t := by
  unfold prepassT
  have hz : ((e.taskD t).effort == 0) = false := by
    simp only [beq_eq_false_iff_ne, ne_eq]; have := hel.2.1; grind
  simp only [hel.1, hel.2.2, hz, Bool.not_true, Bool.false_eq_true, if_false, Bool.and_false, Bool.or_self]

theorem prepassT_kept (e : Env) (σ : St) (t : Nat) : Kept e t (σ.tst t) (prepassT e σ t) :=
  ⟨prepassT_done e σ t, fun hel => by rw [prepassT_effLeaf e σ t hel]; exact ⟨rfl, rfl⟩⟩

theorem rollupT_flags (e : Env) (σ : St) (t : Nat) :
    (rollupT e σ t).done = (σ.tst t).done ∧ (rollupT e σ t).forward = (σ.tst t).forward := by
  unfold rollupT
  simp only []
  cases childMinStart σ (e.taskD t).children <;> cases childMaxEnd σ (e.taskD t).children <;>
    simp only [apply_ite TSt.forward, apply_ite TSt.done, ite_self, and_self]

theorem rollupT_done (e : Env) (σ : St) (t : Nat) : (rollupT e σ t).done = (σ.tst t).done := (rollupT_flags e σ t).1

theorem rollupT_forward (e : Env) (σ : St) (t : Nat) : (rollupT e σ t).forward = (σ.tst t).forward := (rollupT_flags e σ t).2

theorem rollupT_leaf (e : Env) (σ : St) (t : Nat) (hlf : (e.taskD t).leaf = true) : rollupT e σ t = σ.tst t := by
  unfold rollupT; simp [hlf]

theorem rollupT_kept (e : Env) (σ : St) (t : Nat) : Kept e t (σ.tst t) (rollupT e σ t) :=
  ⟨rollupT_done e σ t, fun hel => by rw [rollupT_leaf e σ t hel.1]; exact ⟨rfl, rfl⟩⟩

theorem prepare_kept (e : Env) (σ : St) : AttrStep (Kept e) σ (prepare e σ) :=
  prepare_attr e (kept_preorder e) (projAlapT_kept e) (containerEndT_kept e) σ

theorem preLoop_kept (e : Env) (σ : St) : AttrStep (Kept e) σ (preLoop e σ) :=
  preLoop_attr e (kept_preorder e) (prepassT_kept e) (fun _ _ => ⟨rfl, fun _ => ⟨rfl, rfl⟩⟩) (rollupT_kept e) σ

def loopStart (e : Env) : St := preLoop e (prepare e (initState e))

theorem initState_tst (e : Env) (t : Nat) :
    (initState e).tst t = { start := (e.taskD t).start, stop := (e.taskD t).stop, forward := (e.taskD t).forward } := by
  unfold initState St.tst Env.taskD
  simp only [Array.getD_eq_getD_getElem?, Array.getElem?_map]
  cases e.tasks[t]? <;> rfl

theorem initState_size (e : Env) : (initState e).ts.size = e.tasks.size := by
  unfold initState; simp

theorem loopStart_inv (e : Env) (wf : WF e) : Inv e (loopStart e) := preLoop_inv e _ (prepare_inv e _ (inv_init e wf))

theorem loopStart_kept (e : Env) : AttrStep (Kept e) (initState e) (loopStart e) :=
  (prepare_kept e _).trans (kept_preorder e) (preLoop_kept e _)

theorem loopStart_led (e : Env) (r : Nat) (i : Int) : (loopStart e).led.get r i = {} := by
  rw [(loopStart_kept e).led]; simp [initState, Ledger.get_empty]

theorem loopStart_done (e : Env) (t : Nat) : ((loopStart e).tst t).done = false := by
  rw [((loopStart_kept e).tst t).1, initState_tst]

theorem loopStart_size (e : Env) : (loopStart e).ts.size = e.tasks.size :=
  (loopStart_kept e).size.trans (initState_size e)

/-- an effort leaf enters the loop unscheduled and with the start attribute it was given -/
theorem loopStart_effLeaf (e : Env) (t : Nat) (hel : EffLeaf e t) :
    ((loopStart e).tst t).scheduled = false ∧ ((loopStart e).tst t).start = (e.taskD t).start := by
  obtain ⟨h1, h2⟩ := ((loopStart_kept e).tst t).2 hel
  rw [h1, h2, initState_tst]
  exact ⟨rfl, rfl⟩

theorem todoOf_loopStart (e : Env) (t : Nat) (h : t ∈ todoOf e (loopStart e)) :
    (e.taskD t).leaf = true ∧ t < (loopStart e).ts.size ∧ ((loopStart e).tst t).scheduled = false ∧
    ((loopStart e).tst t).done = false ∧ ∀ r i, usageOf ((loopStart e).led.get r i).usage t = none :=
  ⟨todoOf_leaf e _ t h, by rw [loopStart_size]; exact (todoOf_mem e _ t h).1, (todoOf_mem e _ t h).2, loopStart_done e t,
   fun r i => by rw [loopStart_led]; rfl⟩

/-- the roll-up leaves leaf tasks and containers that are already marked scheduled alone -/
theorem updateContainers_fixed (e : Env) (σ : St) (t : Nat)
    (h : (e.taskD t).leaf = true ∨ (σ.tst t).scheduled = true) : (updateContainers e σ).tst t = σ.tst t :=
  (updateContainers_attr (R := fun t a b => (e.taskD t).leaf = true ∨ a.scheduled = true → b = a) e
    ⟨fun _ _ _ => rfl, fun _ _ _ _ h1 h2 hc => (h2 (by rw [h1 hc]; exact hc)).trans (h1 hc)⟩
    (fun σ t hc => by
      rcases hc with hc | hc
      · exact rollupT_leaf e σ t hc
      · unfold rollupT; simp [hc]) σ).tst t h

theorem updateContainers_leaf (e : Env) (σ : St) (t : Nat) (hlf : (e.taskD t).leaf = true) :
    (updateContainers e σ).tst t = σ.tst t :=
  updateContainers_fixed e σ t (Or.inl hlf)

theorem updateContainers_size (e : Env) (σ : St) : (updateContainers e σ).ts.size = σ.ts.size :=
  (updateContainers_books e σ).size

theorem finalT_forward (e : Env) (t : Nat) (fwd : Bool) (c1 : Int) (ts1 : TSt) (w1 : Walk) :
    (finalT e t fwd c1 ts1 w1).forward = ts1.forward := by
  unfold finalT
  simp only [apply_ite TSt.forward, ite_self]

theorem scheduleTask_size (e : Env) (σ : St) (t0 : Nat) : (scheduleTask e σ t0).1.ts.size = σ.ts.size := by
  rcases scheduleTask_cases e σ t0 with h | ⟨X, hX, h | ⟨w, h⟩⟩
  · rw [h]
  · rw [h, size_setT]; exact hX.2.2.2.2
  · rw [h, size_setT]; exact hX.2.2.2.2

theorem scheduleTask_self_forward (e : Env) (σ : St) (t0 : Nat) :
    ((scheduleTask e σ t0).1.tst t0).forward = (σ.tst t0).forward := by
  rcases scheduleTask_cases e σ t0 with h | ⟨X, hX, h | ⟨w, h⟩⟩
  · rw [h]
  · rw [h]
    rcases tst_setT_cases X t0 { X.tst t0 with runaway := true } with h' | h'
    · rw [h']; exact hX.2.2.2.1
    · rw [h']; exact hX.2.2.2.1
  · rw [h]
    rcases tst_setT_cases X t0 (finalT e t0 (σ.tst t0).forward (walkStart e σ t0).2.cur (X.tst t0) w) with h' | h'
    · rw [h', finalT_forward]; exact hX.2.2.2.1
    · rw [h']; exact hX.2.2.2.1

theorem bookResources_size (e : Env) (σ : St) (t : Nat) (w : Walk) : (bookResources e σ t w).1.ts.size = σ.ts.size :=
  (bookResources_frame e σ t w).2.2.2.2

theorem scheduleSlot_size (e : Env) (σ : St) (t : Nat) (w : Walk) : (scheduleSlot e σ t w).1.ts.size = σ.ts.size :=
  (scheduleSlot_frame e σ t w).2.2.2.2

theorem walkLoop_size (e : Env) (t : Nat) (fwd : Bool) (f : Nat) (σ : St) (w : Walk) :
    (walkLoop e t fwd f σ w).1.ts.size = σ.ts.size :=
  (walkLoop_frame e t fwd f σ w).2.2.2.2

/-- scheduling `t0` and rolling the containers up leaves every other leaf as it is: attributes and ledger entries -/
theorem round_fixed (e : Env) (σ : St) (t0 x : Nat) (hne : x ≠ t0)
    (hx : (e.taskD x).leaf = true ∨ (σ.tst x).scheduled = true) :
    (updateContainers e (scheduleTask e σ t0).1).tst x = σ.tst x := by
  rw [updateContainers_fixed e _ x (by rw [scheduleTask_other e σ t0 x hne]; exact hx), scheduleTask_other e σ t0 x hne]

/-- scheduling `t0` and rolling the containers up leaves every other leaf as it is: attributes and ledger entries -/
theorem round_other (e : Env) (σ : St) (t0 t : Nat) (hlf : (e.taskD t).leaf = true) (hne : t ≠ t0) :
    (updateContainers e (scheduleTask e σ t0).1).tst t = σ.tst t ∧
    SameEntries σ (updateContainers e (scheduleTask e σ t0).1) t :=
  ⟨round_fixed e σ t0 t hne (Or.inl hlf),
   (scheduleTask_same e σ t0 t (Ne.symm hne)).trans (SameEntries.of_led (updateContainers_led e _))⟩

/-- a task that is already scheduled while `t0` is not — a predecessor or successor the pick of `t0` waited for — is
    left alone by the round, container or leaf -/
theorem round_scheduled (e : Env) (σ : St) (t0 x : Nat) (h0 : (σ.tst t0).scheduled = false)
    (hx : (σ.tst x).scheduled = true) : (updateContainers e (scheduleTask e σ t0).1).tst x = σ.tst x :=
  round_fixed e σ t0 x (fun h => by rw [h, h0] at hx; exact Bool.noConfusion hx) (Or.inr hx)

/-- what every loop invariant says of its work list — distinct leaves inside the task table — survives a round, and the
    leaves still on the list are untouched by it -/
theorem round_rest (e : Env) (σ : St) (tasks : List Nat) (t0 : Nat) (hnd : tasks.Nodup)
    (hleaf : ∀ t ∈ tasks, (e.taskD t).leaf = true) :
    (tasks.erase t0).Nodup ∧ (∀ t ∈ tasks.erase t0, (e.taskD t).leaf = true) ∧
    (updateContainers e (scheduleTask e σ t0).1).ts.size = σ.ts.size ∧
    ∀ t ∈ tasks.erase t0, t ∈ tasks ∧ (updateContainers e (scheduleTask e σ t0).1).tst t = σ.tst t ∧
      SameEntries σ (updateContainers e (scheduleTask e σ t0).1) t :=
  ⟨hnd.erase t0, fun t ht => hleaf t (List.mem_of_mem_erase ht), by rw [updateContainers_size, scheduleTask_size],
   fun t ht => ⟨(mem_erase_ne hnd ht).1, round_other e σ t0 t (hleaf t (mem_erase_ne hnd ht).1) (mem_erase_ne hnd ht).2⟩⟩

theorem round_worklist (e : Env) (wf : WF e) (σ : St) (tasks : List Nat) (t0 : Nat) (hinv : Inv e σ) (hnd : tasks.Nodup)
    (hleaf : ∀ t ∈ tasks, (e.taskD t).leaf = true) (hmem : t0 ∈ tasks) :
    Inv e (updateContainers e (scheduleTask e σ t0).1) ∧ (tasks.erase t0).Nodup ∧
    (∀ t ∈ tasks.erase t0, (e.taskD t).leaf = true) ∧
    (updateContainers e (scheduleTask e σ t0).1).ts.size = σ.ts.size ∧
    ∀ t ∈ tasks.erase t0, t ∈ tasks ∧ (updateContainers e (scheduleTask e σ t0).1).tst t = σ.tst t ∧
      SameEntries σ (updateContainers e (scheduleTask e σ t0).1) t :=
  ⟨updateContainers_inv e _ (scheduleTask_inv e σ t0 wf hinv (hleaf t0 hmem)), round_rest e σ tasks t0 hnd hleaf⟩

/-- … and with them the usual account of the work list: inside the task table, not done, nothing booked -/
theorem round_pending (e : Env) (wf : WF e) (σ : St) (tasks : List Nat) (t0 : Nat) (hinv : Inv e σ) (hnd : tasks.Nodup)
    (hleaf : ∀ t ∈ tasks, (e.taskD t).leaf = true) (hin : ∀ t ∈ tasks, t < σ.ts.size)
    (hp : ∀ t ∈ tasks, (σ.tst t).done = false ∧ ∀ r i, usageOf (σ.led.get r i).usage t = none) (hmem : t0 ∈ tasks) :
    Inv e (updateContainers e (scheduleTask e σ t0).1) ∧ (tasks.erase t0).Nodup ∧
    (∀ t ∈ tasks.erase t0, (e.taskD t).leaf = true) ∧
    (∀ t ∈ tasks.erase t0, t < (updateContainers e (scheduleTask e σ t0).1).ts.size) ∧
    ∀ t ∈ tasks.erase t0, ((updateContainers e (scheduleTask e σ t0).1).tst t).done = false ∧
      ∀ r i, usageOf ((updateContainers e (scheduleTask e σ t0).1).led.get r i).usage t = none := by
  obtain ⟨hinv', hnd', hlf', hsz, hrest⟩ := round_worklist e wf σ tasks t0 hinv hnd hleaf hmem
  refine ⟨hinv', hnd', hlf', fun t ht => by rw [hsz]; exact hin t (hrest t ht).1, fun t ht => ?_⟩
  obtain ⟨htm, hts, hse⟩ := hrest t ht
  rw [hts]
  exact ⟨(hp t htm).1, fun r i => (hse r i).trans ((hp t htm).2 r i)⟩

/-- one round of the pick loop, seen from a property `P σ t` of the completed tasks of some kind `E`: `P` holds of the
    task just completed because `scheduleTask` establishes it, and of the others because it only reads the task's own
    attributes and ledger entries -/
theorem round_done {e : Env} {E : Nat → Prop} {P : St → Nat → Prop}
    (hleaf : ∀ t, E t → (e.taskD t).leaf = true)
    (hsame : ∀ σ σ' t, SameEntries σ σ' t → σ'.tst t = σ.tst t → P σ t → P σ' t)
    (htask : ∀ σ t, Inv e σ → E t → t < σ.ts.size → (σ.tst t).done = false →
      (∀ r i, usageOf (σ.led.get r i).usage t = none) → (scheduleTask e σ t).2 = true → P (scheduleTask e σ t).1 t)
    (σ : St) (t0 : Nat) (hinv : Inv e σ) (hb : t0 < σ.ts.size)
    (hp : (σ.tst t0).done = false ∧ ∀ r i, usageOf (σ.led.get r i).usage t0 = none)
    (ok : ∀ t, E t → (σ.tst t).done = true → P σ t) (t : Nat) (hel : E t)
    (hd : ((updateContainers e (scheduleTask e σ t0).1).tst t).done = true) :
    P (updateContainers e (scheduleTask e σ t0).1) t := by
  by_cases heq : t = t0
  · subst heq
    rw [updateContainers_leaf e _ t (hleaf t hel)] at hd
    exact hsame _ _ t (SameEntries.of_led (updateContainers_led e _)) (updateContainers_leaf e _ t (hleaf t hel))
      (htask σ t hinv hel hb hp.1 hp.2 (scheduleTask_done e σ t hp.1 hd))
  · obtain ⟨hts, hse⟩ := round_other e σ t0 t (hleaf t hel) heq
    rw [hts] at hd
    exact hsame _ _ t hse hts (ok t hel hd)

/-! `I tasks placed σ`: `tasks` is the work list, `placed` the tasks picked so far, the latest first. -/

section
variable {e : Env} {I : List Nat → List Nat → St → Prop}

theorem pickLoop_step (e : Env) (f : Nat) (tasks failed : List Nat) (σ : St) (t : Nat)
    (h : tasks.find? (fun t => ready e σ t) = some t) :
    pickLoop e (f + 1) tasks failed σ =
      pickLoop e f (tasks.erase t) (if (scheduleTask e σ t).2 then failed else failed ++ [t])
        (updateContainers e (scheduleTask e σ t).1) := by
  have hne : tasks.isEmpty = false := by
    cases tasks with
    | nil => cases h
    | cons _ _ => rfl
  rw [pickLoop]
  simp only [hne, h]
  rfl

theorem pickLoop_none (e : Env) (f : Nat) (tasks failed : List Nat) (σ : St)
    (h : tasks.find? (fun t => ready e σ t) = none) :
    pickLoop e (f + 1) tasks failed σ =
      if tasks.isEmpty then (σ, failed)
      else if failed.isEmpty then ({ σ with warnings := σ.warnings ++ ["deadlock"] }, failed ++ tasks) else (σ, failed) := by
  rw [pickLoop]
  simp only [h]

theorem pickLoop_stuck (e : Env) (f : Nat) (tasks failed : List Nat) (σ : St)
    (h : tasks.find? (fun t => ready e σ t) = none) (t : Nat) : (pickLoop e f tasks failed σ).1.tst t = σ.tst t := by
  cases f with
  | zero => rfl
  | succ f =>
    rw [pickLoop_none e f tasks failed σ h]
    split
    · rfl
    · split <;> rfl

theorem pickLoop_induct
    (hstep : ∀ tasks placed σ t0, I tasks placed σ → tasks.find? (fun t => ready e σ t) = some t0 →
      I (tasks.erase t0) (t0 :: placed) (updateContainers e (scheduleTask e σ t0).1))
    (hwarn : ∀ tasks placed (σ : St) w, I tasks placed σ → I tasks placed { σ with warnings := w })
    (fuel : Nat) (tasks failed placed : List Nat) (σ : St) (h : I tasks placed σ) :
    ∃ rest placed', I rest placed' (pickLoop e fuel tasks failed σ).1 := by
  induction fuel generalizing tasks failed placed σ with
  | zero => exact ⟨_, _, h⟩
  | succ f ih =>
    cases hfind : tasks.find? (fun t => ready e σ t) with
    | some t0 =>
      rw [pickLoop_step e f tasks failed σ t0 hfind]
      exact ih _ _ _ _ (hstep tasks placed σ t0 h hfind)
    | none =>
      rw [pickLoop_none e f tasks failed σ hfind]
      split
      · exact ⟨_, _, h⟩
      · split
        · exact ⟨_, _, hwarn _ _ σ _ h⟩
        · exact ⟨_, _, h⟩

/-- the loop of a whole scenario, from the state `prepare` and the passes before the loop leave -/
theorem scenario_induct
    (hstep : ∀ tasks placed σ t0, I tasks placed σ → tasks.find? (fun t => ready e σ t) = some t0 →
      I (tasks.erase t0) (t0 :: placed) (updateContainers e (scheduleTask e σ t0).1))
    (hwarn : ∀ tasks placed (σ : St) w, I tasks placed σ → I tasks placed { σ with warnings := w })
    (h0 : I (todoOf e (loopStart e)) [] (loopStart e)) :
    ∃ rest placed, I rest placed (scheduleScenario e (prepare e (initState e))) := by
  obtain ⟨rest, placed, h⟩ := pickLoop_induct hstep hwarn ((todoOf e (loopStart e)).length + 1) _ [] [] _ h0
  refine ⟨rest, placed, ?_⟩
  unfold scheduleScenario
  simp only []
  split
  · exact h
  · exact hwarn _ _ _ _ h

/-- the ghost list names every task once: a task is picked from the work list, which has no repetition, and leaves it -/
theorem scenario_induct_nodup
    (hstep : ∀ tasks placed σ t0, I tasks placed σ → tasks.find? (fun t => ready e σ t) = some t0 →
      I (tasks.erase t0) (t0 :: placed) (updateContainers e (scheduleTask e σ t0).1))
    (hwarn : ∀ tasks placed (σ : St) w, I tasks placed σ → I tasks placed { σ with warnings := w })
    (h0 : I (todoOf e (loopStart e)) [] (loopStart e)) :
    ∃ rest placed, placed.Nodup ∧ I rest placed (scheduleScenario e (prepare e (initState e))) := by
  obtain ⟨rest, placed, ⟨_, hnd, _⟩, h⟩ := scenario_induct (e := e)
    (I := fun tasks placed σ => (tasks.Nodup ∧ placed.Nodup ∧ ∀ t ∈ tasks, t ∉ placed) ∧ I tasks placed σ)
    (fun tasks placed σ t0 ⟨⟨hn, hp, hd⟩, h⟩ hf =>
      ⟨⟨hn.erase t0, List.nodup_cons.mpr ⟨hd t0 (List.mem_of_find?_eq_some hf), hp⟩, fun t ht hin =>
          (List.mem_cons.mp hin).elim (mem_erase_ne hn ht).2 (hd t (mem_erase_ne hn ht).1)⟩,
       hstep tasks placed σ t0 h hf⟩)
    (fun tasks placed σ w ⟨hh, h⟩ => ⟨hh, hwarn tasks placed σ w h⟩)
    ⟨⟨todoOf_nodup e _, List.nodup_nil, fun _ _ h => nomatch h⟩, h0⟩
  exact ⟨rest, placed, hnd, h⟩

end

theorem pickLoop_size (e : Env) (f : Nat) (tasks failed : List Nat) (σ : St) :
    (pickLoop e f tasks failed σ).1.ts.size = σ.ts.size := by
  obtain ⟨_, _, h⟩ := pickLoop_induct (e := e) (I := fun _ _ σ' => σ'.ts.size = σ.ts.size)
    (fun _ _ σ' t0 h _ => (updateContainers_size e _).trans ((scheduleTask_size e σ' t0).trans h)) (fun _ _ _ _ h => h)
    f tasks failed [] σ rfl
  exact h

theorem scheduleScenario_tst (e : Env) (σ : St) (t : Nat) :
    (scheduleScenario e σ).tst t =
      (pickLoop e ((todoOf e (preLoop e σ)).length + 1) (todoOf e (preLoop e σ)) [] (preLoop e σ)).1.tst t := by
  unfold scheduleScenario
  simp only []
  split <;> rfl

/-- `finishScenario` dates containers only -/
theorem finishScenario_leaf (e : Env) (σ : St) :
    AttrStep (fun t a b => (e.taskD t).leaf = true → b = a) σ (finishScenario e σ) :=
  finishScenario_attr e ⟨fun _ _ _ => rfl, fun _ _ _ _ h1 h2 hl => (h2 hl).trans (h1 hl)⟩
    (fun σ t hn hl => absurd hl (by rw [hn]; exact Bool.noConfusion)) σ

theorem finishScenario_led (e : Env) (σ : St) : (finishScenario e σ).led = σ.led := (finishScenario_leaf e σ).led

theorem finishScenario_leafT (e : Env) (σ : St) (t : Nat) (ht : (e.taskD t).leaf = true) :
    (finishScenario e σ).tst t = σ.tst t := (finishScenario_leaf e σ).tst t ht

theorem runScenario_leafT (e : Env) (t : Nat) (ht : (e.taskD t).leaf = true) :
    (runScenario e).tst t = (scheduleScenario e (prepare e (initState e))).tst t :=
  finishScenario_leafT e _ t ht

/-! ### no pass resizes the task table -/

theorem foldl_setT_size (f : St → Nat → TSt) (l : List Nat) (σ : St) :
    (l.foldl (fun (acc : St) t => acc.setT t (f acc t)) σ).ts.size = σ.ts.size :=
  (foldl_setT_attr anyAttr_preorder f (fun _ _ => trivial) l σ).size

theorem milestonePrepass_size (e : Env) (σ : St) : (milestonePrepass e σ).ts.size = σ.ts.size := foldl_setT_size _ _ σ

theorem propagateAlap_size (e : Env) (σ : St) : (propagateAlap e σ).ts.size = σ.ts.size :=
  (propagateAlap_attr e anyAttr_preorder (fun _ _ => trivial) σ).size

theorem prepare_size (e : Env) (σ : St) : (prepare e σ).ts.size = σ.ts.size := (prepare_books e σ).size
theorem preLoop_size (e : Env) (σ : St) : (preLoop e σ).ts.size = σ.ts.size := (preLoop_books e σ).size

theorem scheduleScenario_size (e : Env) (σ : St) : (scheduleScenario e σ).ts.size = σ.ts.size := by
  unfold scheduleScenario
  simp only []
  split <;> exact (pickLoop_size e _ _ _ _).trans (preLoop_size e σ)

end SP
