import Proofs.Passes
import Proofs.Team
/-!
An induction principle over every state the scheduler can reach.

The ledger, the limit counters and the slot marks are changed by exactly four primitive operations
(`reserveAt`, the tail release of one slot, `bookSlot`, and changes that touch neither of them).  A state predicate that
is closed under these four (`Closed`) — each under the conditions in which the scheduler performs it — holds in the state
`runScenario` ends in (`runScenario_closed`) and after every function on the way (`closed_*`).  `closed_of_slots` builds
such a predicate from one about single slots.  The induction itself (`held_*`) is over `Steps`, which is `Closed` with the
conditions on cursor and offset a parameter, and proves `Held`, the predicate together with `Inv`, so the closure
conditions may use `Inv`; that `Inv` itself is kept by every function (`scheduleTask_inv`, …, `runScenario_inv`) is the
instance `P := True` with no condition on the cursor (`steps_true`).
-/
namespace SP

structure Closed (e : Env) (P : St → Prop) (T : Nat → Prop := fun _ => True) : Prop where
  /-- task attributes, warnings: ledger, counters and marks untouched -/
  eq : ∀ σ σ' : St, σ'.led = σ.led → σ'.cnt = σ.cnt → σ'.marks = σ.marks → P σ → P σ'
  /-- start-offset reservation and team levelling -/
  reserve : ∀ σ r i off, Inv e σ → 0 ≤ off → off ≤ (e.G : Rat) - 1 / 1000000 → P σ → P (reserveAt σ r i off)
  /-- the tail release of the finishing slot (on the last booked member and on the other team members) -/
  release : ∀ (σ : St) r i t a, T t → Inv e σ → (e.taskD t).leaf = true → 0 ≤ a → P σ →
    P { σ with led := σ.led.set r i ((σ.led.get r i).release t a) }
  /-- a booking, made only behind the gate -/
  book : ∀ σ r i t, T t → Inv e σ → (e.taskD t).leaf = true → 0 ≤ i → i ≤ e.upper → available e σ r i = true →
    taskLimitsOk e σ t i r = true → P σ → P (bookSlot e σ r i t).1

structure WalkIn (e : Env) (w : Walk) : Prop where
  cur_nonneg : 0 ≤ w.cur
  off_room : w.offset ≤ (e.G : Rat) - 1 / 1000000
  cur_le : w.cur ≤ e.upper

theorem Closed.of_iff {e : Env} {P P' : St → Prop} {T : Nat → Prop} (h : ∀ σ, P' σ ↔ P σ) (hc : Closed e P T) : Closed e P' T :=
  ⟨fun σ σ' hl hn hm hp => (h σ').mpr (hc.eq σ σ' hl hn hm ((h σ).mp hp)),
   fun σ r i off hi h0 h1 hp => (h _).mpr (hc.reserve σ r i off hi h0 h1 ((h σ).mp hp)),
   fun σ r i t a hT hi hlf ha hp => (h _).mpr (hc.release σ r i t a hT hi hlf ha ((h σ).mp hp)),
   fun σ r i t hT hi hlf h0 h1 hav hl hp => (h _).mpr (hc.book σ r i t hT hi hlf h0 h1 hav hl ((h σ).mp hp))⟩

theorem closed_of_slots {e : Env} {T : Nat → Prop} (Q : Nat → Int → Slot → Bool → Prop)
    (hres : ∀ r i s m off, 0 ≤ off → off ≤ (e.G : Rat) - 1 / 1000000 → Q r i s m → Q r i (s.reserve off) m)
    (hrel : ∀ r i s m t a, T t → Q r i s m → Q r i (s.release t a) m)
    (hbook : ∀ r i s m t, T t → Q r i s m → Q r i (s.book e.G t) true) :
    Closed e (fun σ => ∀ r i, Q r i (σ.led.get r i) (σ.marks.get r i)) T where
  eq := fun σ σ' hl _ hm h => by rw [hl, hm]; exact h
  reserve := by
    intro σ r i off _ h0 h1 h r' i'
    show Q r' i' ((reserveAt σ r i off).led.get r' i') (σ.marks.get r' i')
    rw [reserveAt_get]
    split
    · rename_i heq
      obtain ⟨rfl, rfl⟩ := heq
      exact hres r i _ _ off h0 h1 (h r i)
    · exact h r' i'
  release := by
    intro σ r i t a hT _ _ _ h r' i'
    show Q r' i' ((σ.led.set r i ((σ.led.get r i).release t a)).get r' i') (σ.marks.get r' i')
    rw [Ledger.get_set]
    split
    · rename_i heq
      obtain ⟨rfl, rfl⟩ := heq
      exact hrel r i _ _ t a hT (h r i)
    · exact h r' i'
  book := by
    intro σ r i t hT _ _ hi0 _ _ _ h r' i'
    have hnorm : e.norm i = i := by unfold Env.norm; simp [Int.not_lt.mpr hi0]
    rw [bookSlot_marks, Marks.get_set, hnorm, bookSlot_eq, incAll_led]
    show Q r' i' ((σ.led.set r i ((σ.led.get r i).book e.G t)).get r' i') _
    rw [Ledger.get_set]
    by_cases heq : r = r' ∧ i = i'
    · rw [if_pos heq, if_pos heq]
      obtain ⟨rfl, rfl⟩ := heq
      exact hbook r i _ _ t hT (h r i)
    · rw [if_neg heq, if_neg heq]
      exact h r' i'

variable {e : Env} {P : St → Prop} {T : Nat → Prop} {W : Int → Rat → Prop}

theorem walkIn_of (i : Int) (off : Rat) (h0 : 0 ≤ i) (h1 : i ≤ e.upper) (h2 : off ≤ (e.G : Rat) - 1) :
    WalkIn e { cur := i, offset := off } := ⟨h0, by show off ≤ _; grind, h1⟩

/-- `Closed` with what is known of the cursor and the start offset left open (`W cur offset`): with `W` = the bounds of
    `WalkIn` this is `Closed`, with `W` = nothing it is all that the invariant itself needs -/
structure Steps (e : Env) (W : Int → Rat → Prop) (P : St → Prop) (T : Nat → Prop) : Prop where
  /-- `W` holds of a cursor inside the horizon with an offset at least a second short of the slot length: so every slot of a
      walk is entered -/
  walk : ∀ i off, 0 ≤ i → i ≤ e.upper → off ≤ (e.G : Rat) - 1 → W i off
  /-- task attributes, warnings: ledger, counters and marks untouched -/
  eq : ∀ σ σ' : St, σ'.led = σ.led → σ'.cnt = σ.cnt → σ'.marks = σ.marks → P σ → P σ'
  /-- left disjunct: the start-offset reservation, made at the walk's cursor and offset; right: team levelling, by less
      than a slot -/
  reserve : ∀ σ r i off, Inv e σ → 0 ≤ off → off ≤ (e.G : Rat) → W i off ∨ off ≤ (e.G : Rat) - 1 / 1000000 → P σ →
    P (reserveAt σ r i off)
  /-- the tail release of the finishing slot (on the last booked member and on the other team members) -/
  release : ∀ (σ : St) r i t a, T t → Inv e σ → (e.taskD t).leaf = true → 0 ≤ a → P σ →
    P { σ with led := σ.led.set r i ((σ.led.get r i).release t a) }
  /-- a booking, made only behind the gate, at the walk's cursor -/
  book : ∀ σ r i off t, T t → Inv e σ → (e.taskD t).leaf = true → W i off → available e σ r i = true →
    taskLimitsOk e σ t i r = true → P σ → P (bookSlot e σ r i t).1

theorem Closed.steps (hc : Closed e P T) : Steps e (fun i off => WalkIn e { cur := i, offset := off }) P T :=
  ⟨walkIn_of, hc.eq, fun σ r i off hi h0 _ hb h => hc.reserve σ r i off hi h0 (hb.elim (fun hw => hw.off_room) id) h,
   hc.release, fun σ r i _ t hT hi hlf hw ha hl h => hc.book σ r i t hT hi hlf hw.cur_nonneg hw.cur_le ha hl h⟩

theorem steps_true (e : Env) : Steps e (fun _ _ => True) (fun _ => True) (fun _ => True) :=
  ⟨fun _ _ _ _ _ => trivial, fun _ _ _ _ _ _ => trivial, fun _ _ _ _ _ _ _ _ _ => trivial,
   fun _ _ _ _ _ _ _ _ _ _ => trivial, fun _ _ _ _ _ _ _ _ _ _ _ _ => trivial⟩

def Held (e : Env) (P : St → Prop) (σ : St) : Prop := Inv e σ ∧ P σ

theorem Held.of_books {σ : St} (hc : Steps e W P T) (h : Held e P σ) (σ' : St) (hl : σ'.led = σ.led) (hn : σ'.cnt = σ.cnt)
    (hm : σ'.marks = σ.marks) : Held e P σ' :=
  ⟨Inv.of_eq hl hn h.1, hc.eq σ σ' hl hn hm h.2⟩

theorem Held.setT (hc : Steps e W P T) (σ : St) (t : Nat) (x : TSt) (h : Held e P σ) : Held e P (σ.setT t x) :=
  h.of_books hc _ rfl rfl rfl

theorem Held.attr {R : Nat → TSt → TSt → Prop} {σ σ' : St} (hc : Steps e W P T) (ha : AttrStep R σ σ') (h : Held e P σ) :
    Held e P σ' :=
  h.of_books hc _ ha.led ha.cnt ha.marks

theorem held_reserveStep (hc : Steps e W P T) (σ : St) (t : Nat) (w : Walk) (r : Nat) (hw : WalkOk e t w)
    (hin : W w.cur w.offset) (h : Held e P σ) : Held e P (reserveStep σ w r) := by
  unfold reserveStep
  split
  · exact ⟨reserveAt_inv e σ r w.cur w.offset h.1 hw.off_nonneg hw.off_le,
      hc.reserve σ r w.cur w.offset h.1 hw.off_nonneg hw.off_le (Or.inl hin) h.2⟩
  · exact h

theorem held_levelTeam (hc : Steps e W P T) (wf : WF e) (σ : St) (cur : Int) (sel : List Nat)
    (hroom : ∀ m ∈ sel, availSecs e.G (σ.led.get m cur) > 0) (h : Held e P σ) : Held e P (levelTeam σ cur sel) := by
  unfold levelTeam
  obtain ⟨h0, h1⟩ := teamCommon_bounds e σ cur sel wf h.1
  have h2 := teamCommon_room e wf σ cur sel hroom
  exact foldl_inv (fun acc => Held e P acc) (fun acc r => reserveAt acc r cur (teamCommon σ cur sel)) sel σ h
    (fun acc r ha => ⟨reserveAt_inv e acc r cur _ ha.1 h0 h1, hc.reserve acc r cur _ ha.1 h0 h1 (Or.inr h2) ha.2⟩)

theorem held_bookResource (hc : Steps e W P T) (wf : WF e) (σ : St) (t : Nat) (w : Walk) (r : Nat)
    (hlf : (e.taskD t).leaf = true) (hT : T t) (hw : WalkOk e t w) (hin : W w.cur w.offset) (h : Held e P σ) :
    Held e P (bookResource e σ t w r).1 := by
  rw [bookResource_eq]
  have h1 := held_reserveStep hc σ t w r hw hin h
  split
  · rename_i hcond
    simp only [Bool.and_eq_true] at hcond
    exact ⟨bookSlot_inv e _ r w.cur t wf h1.1 hlf hcond.1 hcond.2,
      hc.book _ r w.cur w.offset t hT h1.1 hlf hin hcond.1 hcond.2 h1.2⟩
  · exact h1

theorem held_bookAll (hc : Steps e W P T) (wf : WF e) (σ : St) (t : Nat) (w : Walk) (sel : List Nat)
    (hlf : (e.taskD t).leaf = true) (hT : T t) (hw : WalkOk e t w) (hin : W w.cur w.offset) (h : Held e P σ) :
    Held e P (bookAll e σ t w sel).σ := by
  unfold bookAll
  apply foldl_inv (fun (a : BookAcc) => Held e P a.σ) (bookOne e t w) sel { σ := σ, last := w.last } h
  intro a r ha
  unfold bookOne
  simp only []
  split <;> exact held_bookResource hc wf a.σ t w r hlf hT hw hin ha

theorem held_bookResources (hc : Steps e W P T) (wf : WF e) (σ : St) (t : Nat) (w : Walk)
    (hlf : (e.taskD t).leaf = true) (hT : T t) (hw : WalkOk e t w) (hin : W w.cur w.offset) (h : Held e P σ) :
    Held e P (bookResources e σ t w).1 := by
  refine bookResources_cases (P := fun p => Held e P p.1) e σ t w (fun _ => h) (fun sel hgate acc hacc => ?_)
  have hL : Held e P (leveled e σ t w.cur sel) := by
    unfold leveled
    split
    · rename_i hteam
      have hok : teamGateOk e t w.cur σ sel = true := by
        unfold teamGateFails at hgate
        simpa [hteam] using hgate
      exact held_levelTeam hc wf σ w.cur _ (teamGateOk_avail e t w.cur σ _ hok) h
    · exact h
  have hb : Held e P acc.σ := by
    rw [hacc]
    exact held_bookAll hc wf _ t _ sel hlf hT ⟨hw.off_nonneg, hw.off_le, hw.done_le⟩ hin hL
  split
  · unfold markStart; split
    · exact hb.setT hc _ _ _
    · exact hb
  · exact hb

theorem held_release (hc : Steps e W P T) (σ : St) (r : Nat) (i : Int) (t : Nat) (a : Rat) (hlf : (e.taskD t).leaf = true)
    (hT : T t) (ha : 0 ≤ a) (h : Held e P σ) : Held e P { σ with led := σ.led.set r i ((σ.led.get r i).release t a) } :=
  ⟨releaseAt_inv e σ r i t a h.1 hlf ha, hc.release σ r i t a hT h.1 hlf ha h.2⟩

theorem held_releaseOthers (hc : Steps e W P T) (t : Nat) (cur : Int) (r : Nat) (need : Rat) (sel : List Nat)
    (hlf : (e.taskD t).leaf = true) (hT : T t) (hn : 0 ≤ need) (σ : St) (h : Held e P σ) :
    Held e P (releaseOthers σ t cur r need sel) :=
  releaseOthers_ind (Q := Held e P) (fun σ m secs h _ hu =>
    held_release hc σ m cur t (min need secs) hlf hT
      (Std.le_min_iff.mpr ⟨hn, (h.1.slot m cur).entries_nonneg (t, secs) (usageOf_mem hu)⟩) h) sel σ h

theorem held_finishTask (hc : Steps e W P T) (wf : WF e) (σ : St) (t : Nat) (w : Walk) (before : Rat) (fwd : Bool)
    (hlf : (e.taskD t).leaf = true) (hT : T t) (hb : before ≤ (e.taskD t).effort) (h : Held e P σ) :
    Held e P (finishTask e σ t w before fwd).1 := by
  rw [finishTask_fst]
  cases w.last with
  | none => exact h
  | some r =>
    have hn := needSecs_nonneg e σ t w before r wf h.1 hb
    exact held_releaseOthers hc t w.cur r _ _ hlf hT hn _ (held_release hc σ r w.cur t _ hlf hT hn h)

theorem held_scheduleSlot (hc : Steps e W P T) (wf : WF e) (σ : St) (t : Nat) (w : Walk)
    (hlf : (e.taskD t).leaf = true) (hT : T t) (hw : WalkOk e t w) (hin : W w.cur w.offset) (h : Held e P σ) :
    Held e P (scheduleSlot e σ t w).1 ∧
    ((scheduleSlot e σ t w).2.2 = true → WalkOk e t (scheduleSlot e σ t w).2.1) := by
  cases hz : ((e.taskD t).milestone || (e.taskD t).effort == 0) with
  | true =>
    obtain ⟨x, hx⟩ := scheduleSlot_dated e σ t w hz
    rw [hx]
    exact ⟨h.setT hc _ _ _, fun hgo => Bool.noConfusion hgo⟩
  | false =>
    have hb := held_bookResources hc wf σ t w hlf hT hw hin h
    have hwk := bookResources_walk e σ t w
    by_cases hd : (bookResources e σ t w).2.done ≥ (e.taskD t).effort
    · obtain ⟨h2, hl, -⟩ := scheduleSlot_fin e σ t w hz hd
      have hcm := congrArg (fun x => (x.1.cnt, x.1.marks)) ((scheduleSlot_booking e σ t w hz).trans (if_pos hd))
      refine ⟨(held_finishTask hc wf _ t (bookResources e σ t w).2 w.done (σ.tst t).forward hlf hT hw.done_le hb).of_books hc _
        hl (congrArg Prod.fst hcm) (congrArg Prod.snd hcm), fun hgo => ?_⟩
      rw [h2] at hgo; exact Bool.noConfusion hgo
    · rw [scheduleSlot_go e σ t w hz hd]
      exact ⟨hb, fun _ => ⟨by rw [hwk.2]; exact hw.off_nonneg, by rw [hwk.2]; exact hw.off_le, by grind⟩⟩

theorem held_walkLoop (hc : Steps e W P T) (wf : WF e) (t : Nat) (fwd : Bool) (fuel : Nat) (σ : St) (w : Walk)
    (hlf : (e.taskD t).leaf = true) (hT : T t) (hw : WalkOk e t w) (hin : W w.cur w.offset) (h : Held e P σ) :
    Held e P (walkLoop e t fwd fuel σ w).1 := by
  induction fuel generalizing σ w with
  | zero => exact h
  | succ f ih =>
    unfold walkLoop
    have hs := held_scheduleSlot hc wf σ t w hlf hT hw hin h
    simp only []
    split
    · exact hs.1
    · rename_i hcn
      split
      · exact hs.1
      · rename_i hbounds
        simp only [Bool.or_eq_true, decide_eq_true_eq, not_or, Int.not_lt] at hbounds
        have hG1 : (1 : Rat) ≤ (e.G : Rat) := by exact_mod_cast (wf.G_pos : (1 : Int) ≤ e.G)
        exact ih _ _ (walkOk_advance e t wf _ _ _ (hs.2 (by simpa using hcn)))
          (hc.walk _ _ hbounds.1 hbounds.2 (by show (0 : Rat) ≤ _; grind)) hs.1

theorem held_scheduleTask (hc : Steps e W P T) (wf : WF e) (σ : St) (t : Nat)
    (hlf : (e.taskD t).leaf = true) (hT : T t) (h : Held e P σ) : Held e P (scheduleTask e σ t).1 := by
  unfold scheduleTask
  simp only []
  split
  · exact h
  · have h0 := h.setT hc σ t (preStartT e σ t (initCursor e σ t).1)
    split
    · exact h0.setT hc _ _ _
    · rename_i hbounds
      simp only [Bool.or_eq_true, decide_eq_true_eq, not_or, Int.not_lt] at hbounds
      have := held_walkLoop hc wf t (σ.tst t).forward (e.size.toNat + 3) _
        { cur := preStartCursor e σ t (initCursor e σ t).1, offset := (initCursor e σ t).2 } hlf hT
        ⟨(initCursor_off e σ t wf).1, (initCursor_off e σ t wf).2, wf.effort_nonneg t⟩
        (hc.walk _ _ hbounds.1 hbounds.2 (initCursor_bounds e σ t wf).2) h0
      split <;> exact this.setT hc _ _ _

theorem held_pickLoop (hc : Steps e W P T) (wf : WF e) (fuel : Nat) (tasks failed : List Nat) (σ : St)
    (hlv : ∀ t ∈ tasks, (e.taskD t).leaf = true) (hT : ∀ t ∈ tasks, T t) (h : Held e P σ) :
    Held e P (pickLoop e fuel tasks failed σ).1 := by
  induction fuel generalizing tasks failed σ with
  | zero => exact h
  | succ f ih =>
    unfold pickLoop
    split
    · exact h
    · split
      · rename_i t ht
        have htm : t ∈ tasks := List.mem_of_find?_eq_some ht
        exact ih _ _ _ (fun x hx => hlv x (List.mem_of_mem_erase hx)) (fun x hx => hT x (List.mem_of_mem_erase hx))
          ((held_scheduleTask hc wf σ t (hlv t htm) (hT t htm) h).attr hc (updateContainers_books e _))
      · split
        · exact h.of_books hc _ rfl rfl rfl
        · exact h

theorem held_runScenario (hc : Steps e W P T) (wf : WF e) (hT : ∀ t, T t) (h0 : P (initState e)) :
    Held e P (runScenario e) := by
  unfold runScenario scheduleScenario
  simp only []
  have h1 : Held e P (preLoop e (prepare e (initState e))) :=
    ((show Held e P (initState e) from ⟨inv_init e wf, h0⟩).attr hc (prepare_books e _)).attr hc (preLoop_books e _)
  have h2 := held_pickLoop hc wf ((todoOf e (preLoop e (prepare e (initState e)))).length + 1)
    (todoOf e (preLoop e (prepare e (initState e)))) [] _ (todoOf_leaf e _) (fun t _ => hT t) h1
  refine Held.attr hc (finishScenario_books e _) ?_
  split
  · exact h2
  · exact h2.of_books hc _ rfl rfl rfl

/-- **induction over everything the scheduler does**: a predicate closed under the four primitive state changes that
    holds of the empty state holds of the state any well-formed project ends in -/
theorem runScenario_closed (hc : Closed e P T) (wf : WF e) (hT : ∀ t, T t) (h0 : P (initState e)) : P (runScenario e) :=
  (held_runScenario hc.steps wf hT h0).2

theorem WalkIn.eta {w : Walk} (h : WalkIn e w) : WalkIn e { cur := w.cur, offset := w.offset } :=
  ⟨h.cur_nonneg, h.off_room, h.cur_le⟩

theorem Closed.setT (hc : Closed e P T) (σ : St) (t : Nat) (x : TSt) (h : P σ) : P (σ.setT t x) :=
  hc.eq σ _ rfl rfl rfl h

theorem closed_reserveStep (hc : Closed e P T) (σ : St) (t : Nat) (w : Walk) (r : Nat) (hi : Inv e σ) (hw : WalkOk e t w)
    (hin : WalkIn e w) (h : P σ) : P (reserveStep σ w r) :=
  (held_reserveStep hc.steps σ t w r hw hin.eta ⟨hi, h⟩).2

theorem closed_scheduleSlot (hc : Closed e P T) (wf : WF e) (σ : St) (t : Nat) (w : Walk) (hi : Inv e σ)
    (hlf : (e.taskD t).leaf = true) (hT : T t) (hw : WalkOk e t w) (hin : WalkIn e w) (h : P σ) : P (scheduleSlot e σ t w).1 :=
  (held_scheduleSlot hc.steps wf σ t w hlf hT hw hin.eta ⟨hi, h⟩).1.2

theorem closed_walkLoop (hc : Closed e P T) (wf : WF e) (t : Nat) (fwd : Bool) (fuel : Nat) (σ : St) (w : Walk)
    (hi : Inv e σ) (hlf : (e.taskD t).leaf = true) (hT : T t) (hw : WalkOk e t w) (hin : WalkIn e w) (h : P σ) :
    P (walkLoop e t fwd fuel σ w).1 :=
  (held_walkLoop hc.steps wf t fwd fuel σ w hlf hT hw hin.eta ⟨hi, h⟩).2

theorem closed_scheduleTask (hc : Closed e P T) (wf : WF e) (σ : St) (t : Nat) (hi : Inv e σ)
    (hlf : (e.taskD t).leaf = true) (hT : T t) (h : P σ) : P (scheduleTask e σ t).1 :=
  (held_scheduleTask hc.steps wf σ t hlf hT ⟨hi, h⟩).2

theorem closed_updateContainers (hc : Closed e P T) (σ : St) (h : P σ) : P (updateContainers e σ) :=
  hc.eq σ _ (updateContainers_books e σ).led (updateContainers_books e σ).cnt (updateContainers_books e σ).marks h

theorem closed_prepare (hc : Closed e P T) (σ : St) (h : P σ) : P (prepare e σ) :=
  hc.eq σ _ (prepare_books e σ).led (prepare_books e σ).cnt (prepare_books e σ).marks h

theorem closed_preLoop (hc : Closed e P T) (σ : St) (h : P σ) : P (preLoop e σ) :=
  hc.eq σ _ (preLoop_books e σ).led (preLoop_books e σ).cnt (preLoop_books e σ).marks h

theorem closed_finishScenario (hc : Closed e P T) (σ : St) (h : P σ) : P (finishScenario e σ) :=
  hc.eq σ _ (finishScenario_books e σ).led (finishScenario_books e σ).cnt (finishScenario_books e σ).marks h

theorem closed_round (hc : Closed e P T) (wf : WF e) (σ : St) (t0 : Nat)
    (hinv : Inv e σ) (hlf0 : (e.taskD t0).leaf = true) (hT : T t0) (h : P σ) :
    P (updateContainers e (scheduleTask e σ t0).1) :=
  closed_updateContainers hc _ (closed_scheduleTask hc wf σ t0 hinv hlf0 hT h)

theorem bookResources_inv (e : Env) (σ : St) (t : Nat) (w : Walk) (wf : WF e) (h : Inv e σ)
    (hlf : (e.taskD t).leaf = true) (hw : WalkOk e t w) : Inv e (bookResources e σ t w).1 :=
  (held_bookResources (steps_true e) wf σ t w hlf trivial hw trivial ⟨h, trivial⟩).1

theorem scheduleSlot_inv (e : Env) (σ : St) (t : Nat) (w : Walk) (wf : WF e) (h : Inv e σ)
    (hlf : (e.taskD t).leaf = true) (hw : WalkOk e t w) :
    Inv e (scheduleSlot e σ t w).1 ∧
    ((scheduleSlot e σ t w).2.2 = true → WalkOk e t (scheduleSlot e σ t w).2.1) :=
  ⟨(held_scheduleSlot (steps_true e) wf σ t w hlf trivial hw trivial ⟨h, trivial⟩).1.1,
   (held_scheduleSlot (steps_true e) wf σ t w hlf trivial hw trivial ⟨h, trivial⟩).2⟩

theorem scheduleTask_inv (e : Env) (σ : St) (t : Nat) (wf : WF e) (h : Inv e σ)
    (hlf : (e.taskD t).leaf = true) : Inv e (scheduleTask e σ t).1 :=
  (held_scheduleTask (steps_true e) wf σ t hlf trivial ⟨h, trivial⟩).1

theorem updateContainers_inv (e : Env) (σ : St) (h : Inv e σ) : Inv e (updateContainers e σ) :=
  Inv.of_eq (updateContainers_books e σ).led (updateContainers_books e σ).cnt h

theorem prepare_inv (e : Env) (σ : St) (h : Inv e σ) : Inv e (prepare e σ) :=
  Inv.of_eq (prepare_books e σ).led (prepare_books e σ).cnt h

theorem preLoop_inv (e : Env) (σ : St) (h : Inv e σ) : Inv e (preLoop e σ) :=
  Inv.of_eq (preLoop_books e σ).led (preLoop_books e σ).cnt h

/-- **every state a scenario run ends in satisfies the invariant** -/
theorem runScenario_inv (e : Env) (wf : WF e) : Inv e (runScenario e) :=
  (held_runScenario (steps_true e) wf (fun _ => trivial) trivial).1

end SP
