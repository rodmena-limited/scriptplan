import Proofs.DepAll
/-!
C04 for milestones as dependents: a forward milestone (or a leaf without effort) without a start of its own that the loop
placed lies at or after `(start | end) + gap` of every predecessor.
-/
namespace SP

/-- a leaf the scheduler treats as a milestone (`milestone`, or no effort), without a start of its own -/
structure FwdMile (e : Env) (t : Nat) : Prop where
  leaf : (e.taskD t).leaf = true
  mile : ((e.taskD t).milestone || (e.taskD t).effort == 0) = true
  nostart : (e.taskD t).startProvided = false

theorem walkLoop_milestone (e : Env) (σ : St) (t : Nat) (w : Walk) (f : Nat)
    (hm : ((e.taskD t).milestone || (e.taskD t).effort == 0) = true) (hf : (σ.tst t).forward = true)
    (hnp : (e.taskD t).startProvided = false) :
    (walkLoop e t true (f + 1) σ w).1 =
      σ.setT t { σ.tst t with start := some (markDate e w.cur w.offset), stop := some (markDate e w.cur w.offset) } ∧
    (walkLoop e t true (f + 1) σ w).2.2 = true := by
  have hs : scheduleSlot e σ t w =
      (σ.setT t { σ.tst t with start := some (markDate e w.cur w.offset), stop := some (markDate e w.cur w.offset) }, w, false) := by
    unfold scheduleSlot
    simp only [hm, if_true, hf, hnp, Bool.and_false, Bool.false_eq_true, if_false]
    rfl
  unfold walkLoop
  simp only [hs, Bool.not_false, if_true]
  exact ⟨trivial, trivial⟩

/-- **one forward milestone**: a successful `scheduleTask` dates it at or after its dependency bound -/
theorem scheduleTask_start_ge_mile (e : Env) (wf : WF e) (σ : St) (t0 : Nat)
    (hb : t0 < σ.ts.size) (hf : (σ.tst t0).forward = true) (hel : FwdMile e t0)
    (hnd : (σ.tst t0).done = false) (hok : (scheduleTask e σ t0).2 = true) :
    ∃ v, ((scheduleTask e σ t0).1.tst t0).start = some v ∧ boundOf e σ t0 ≤ v := by
  obtain ⟨-, -, heq⟩ := scheduleTask_ok e wf σ t0 hnd hok
  have hsz0 : t0 < (σ.setT t0 (σ.tst t0)).ts.size := by rw [size_setT]; exact hb
  rw [walkStart_forward e σ t0 hf hel.nostart (Or.inl hel.mile), hf,
    (walkLoop_milestone e _ t0 _ (e.size.toNat + 2) hel.mile (by rw [tst_setT_same _ _ _ hb]; exact hf) hel.nostart).1] at heq
  refine ⟨_, ?_, markDate_ge e wf _ (boundOf_ge_start e σ t0) _ (Int.le_refl _)⟩
  rw [heq, tst_setT_same _ _ _ (by rw [size_setT]; exact hsz0), tst_setT_same _ _ _ hsz0]
  simp [finalT]

def FwdAny (e : Env) (t : Nat) : Prop := FwdEff e t ∨ FwdMile e t

theorem fwdAny_startsAtBound (e : Env) (wf : WF e) : StartsAtBound (FwdAny e) e :=
  ⟨fun _ h => h.elim (·.leaf) (·.leaf), fun σ t h hb hf hnd hok =>
    h.elim (fun h => scheduleTask_start_ge e wf σ t hb hf h.nostart h.alloc h.nomile h.effort hnd hok)
      (fun h => scheduleTask_start_ge_mile e wf σ t hb hf h hnd hok)⟩

/-- **C04, forward mode, end to end, effort tasks and milestones.**  After scheduling any well-formed project with a well-formed
    task tree: every forward leaf without a start of its own — an effort task with an allocation, or a milestone / a leaf
    without effort — that the loop completed (`done`) starts at or after `(start | end) + gap` of every predecessor, leaf or
    container, in the final schedule, and every predecessor is scheduled. -/
theorem runScenario_depsOKAny (e : Env) (wf : WF e) (tr : Tree e) : DepsOn (FwdAny e) e (runScenario e) :=
  runScenario_depsOn e tr (fwdAny_startsAtBound e wf)

end SP
