import Proofs.DepStart
/-!
C04, backward mode, one task: the end a backward task is given is at or before its deadline, and the deadline computed
from the successors is at or before every scheduled successor's start minus the gap it asks for.
-/
namespace SP

theorem bookResources_firstBooked (e : Env) (σ : St) (t : Nat) (w : Walk) :
    (bookResources e σ t w).2.firstBooked = w.firstBooked :=
  bookResources_ts_cases (P := fun r => r.2.firstBooked = w.firstBooked) e σ t w (fun _ => rfl) (fun _ _ _ _ _ => rfl)
    (fun _ _ _ _ => rfl)

theorem scheduleSlot_walk {P : Walk → Prop} (e : Env) (σ : St) (t : Nat) (w : Walk) (h0 : P w)
    (h1 : P (bookResources e σ t w).2) : P (scheduleSlot e σ t w).2.1 := by
  have : (scheduleSlot e σ t w).2.1 = w ∨ (scheduleSlot e σ t w).2.1 = (bookResources e σ t w).2 := by
    unfold scheduleSlot
    -- the walk component of every branch under the first test is `w`, of both branches after it `bookResources`'s
    simp only [apply_ite (fun x : St × Walk × Bool => x.2.1), ite_self]
    split
    · exact Or.inl rfl
    · exact Or.inr rfl
  rcases this with h | h
  · rw [h]
    exact h0
  · rw [h]
    exact h1

theorem scheduleSlot_firstBooked (e : Env) (σ : St) (t : Nat) (w : Walk) :
    (scheduleSlot e σ t w).2.1.firstBooked = w.firstBooked :=
  scheduleSlot_walk (P := fun w' => w'.firstBooked = w.firstBooked) e σ t w rfl (bookResources_firstBooked e σ t w)

theorem closeWalk_firstBooked_le {c1 : Int} (w w1 : Walk) (hc : w1.cur ≤ c1) (hfb : ∀ fb, w1.firstBooked = some fb → fb ≤ c1)
    (fb : Int) (h : (closeWalk false w w1).firstBooked = some fb) : fb ≤ c1 := by
  unfold closeWalk at h
  simp only [] at h
  split at h
  · have : fb = w1.cur := by simpa using h.symm
    omega
  · exact hfb fb h

theorem walkLoop_back_firstBooked (e : Env) (t : Nat) (c1 : Int) (fuel : Nat) (σ : St) (w : Walk)
    (hc : w.cur ≤ c1) (hfb : ∀ fb, w.firstBooked = some fb → fb ≤ c1) (hok : (walkLoop e t false fuel σ w).2.2 = true) :
    ∀ fb, (walkLoop e t false fuel σ w).2.1.firstBooked = some fb → fb ≤ c1 := by
  have hslot : ∀ σ w w', w.cur ≤ c1 → (∀ fb, w.firstBooked = some fb → fb ≤ c1) →
      ∀ fb, (closeWalk false w' (scheduleSlot e σ t w).2.1).firstBooked = some fb → fb ≤ c1 :=
    fun σ w w' h1 h2 => closeWalk_firstBooked_le w' _ (by rw [scheduleSlot_cur]; exact h1)
      (by rw [scheduleSlot_firstBooked]; exact h2)
  obtain ⟨σl, wl, ⟨h1, h2⟩, -, -, hw⟩ := walkLoop_ind
    (I := fun _ w => w.cur ≤ c1 ∧ ∀ fb, w.firstBooked = some fb → fb ≤ c1)
    (fun σ w h _ _ _ => ⟨by rw [advance_cur, scheduleSlot_cur]; have := h.1; simp only [Bool.false_eq_true, if_false]; omega,
      hslot σ w w h.1 h.2⟩) fuel σ w ⟨hc, hfb⟩ hok
  rw [hw]
  exact hslot σl wl wl h1 h2

theorem backToWork_le (e : Env) (p : Int → Bool) (fuel : Nat) (c : Int) : backToWork e p fuel c ≤ c := by
  induction fuel generalizing c with
  | zero => exact Int.le_refl _
  | succ f ih =>
    unfold backToWork
    split
    · have := ih (c - 1); omega
    · exact Int.le_refl _

/-- the deadline of a backward task in state `σ`: its own end, else the one computed from its successors -/
def deadlineOf (e : Env) (σ : St) (t : Nat) : Int :=
  match (σ.tst t).stop with
  | some x => x
  | none => latestEnd e σ t

theorem initCursor_backward (e : Env) (σ : St) (t : Nat) (hf : (σ.tst t).forward = false) :
    (initCursor e σ t).1 ≤ e.idx (deadlineOf e σ t) - 1 := by
  unfold initCursor deadlineOf
  simp only [hf, Bool.false_eq_true, if_false]
  split <;> exact backToWork_le e _ _ _

theorem start_le_of_idx_pos (e : Env) (wf : WF e) (x : Int) (h : 1 ≤ e.idx x) : e.start ≤ x := by
  unfold Env.idx at h
  by_cases hc : e.start ≤ x
  · exact hc
  · exfalso
    have hneg : x - e.start < 0 := by omega
    have : Int.tdiv (x - e.start) e.G ≤ 0 := by
      have h1 : x - e.start = -(e.start - x) := by omega
      rw [h1, Int.neg_tdiv, Int.tdiv_eq_ediv_of_nonneg (by omega)]
      have := Int.ediv_nonneg (show 0 ≤ e.start - x by omega) (Int.le_of_lt wf.G_pos)
      omega
    omega

theorem finalT_back_stop (e : Env) (t : Nat) (c1 : Int) (ts1 : TSt) (w1 : Walk) (hpos : 0 < (e.taskD t).effort) :
    (finalT e t false c1 ts1 w1).stop = some (e.time (w1.firstBooked.getD c1 + 1)) := by
  have hdec : decide ((e.taskD t).effort > 0) = true := by simpa using hpos
  simp [finalT, hdec]

/-- **one backward task**: a successful `scheduleTask` of an effort task in backward mode leaves it with an end at or
    before its deadline -/
theorem scheduleTask_stop_le (e : Env) (wf : WF e) (σ : St) (t : Nat)
    (hb : t < σ.ts.size) (hf : (σ.tst t).forward = false) (hpos : 0 < (e.taskD t).effort)
    (hnd : (σ.tst t).done = false) (hok : (scheduleTask e σ t).2 = true) :
    ∃ v, ((scheduleTask e σ t).1.tst t).stop = some v ∧ v ≤ deadlineOf e σ t := by
  obtain ⟨hin, hfin, heq⟩ := scheduleTask_ok e wf σ t hnd hok
  have hc1 : (walkStart e σ t).2.cur = (initCursor e σ t).1 := by
    unfold walkStart preStartCursor; simp [hf]
  have hic := initCursor_backward e σ t hf
  have hc0 := hin.cur_nonneg
  rw [hf] at hfin heq
  have hfb := walkLoop_back_firstBooked e t (walkStart e σ t).2.cur _ _ _ (Int.le_refl _) (fun fb h => nomatch h) hfin
  rw [heq, tst_setT_same _ _ _ (by rw [(walkLoop_frame e t false _ _ _).2.2.2.2]; exact (size_setT σ t _).symm ▸ hb),
    finalT_back_stop e t _ _ _ hpos]
  refine ⟨_, rfl, ?_⟩
  -- endSlot ≤ c1 ≤ idx(deadline) - 1
  generalize (walkLoop e t false (e.size.toNat + 3) (walkStart e σ t).1 (walkStart e σ t).2).2.1.firstBooked = ofb at hfb
  have hend : ofb.getD (walkStart e σ t).2.cur ≤ (walkStart e σ t).2.cur := by
    cases ofb with
    | none => exact Int.le_refl _
    | some fb => exact hfb fb rfl
  have hfl := (idx_floor e wf.G_pos _ (start_le_of_idx_pos e wf (deadlineOf e σ t) (by omega))).1
  have hm := time_mono e wf.G_pos (ofb.getD (walkStart e σ t).2.cur + 1) (e.idx (deadlineOf e σ t)) (by omega)
  omega

/-- the gap a successor `s` asks towards `t` (or an enclosing container of `t`): the largest one among its
    finish-to-start edges with options -/
def succGap (e : Env) (t s : Nat) : Int :=
  (e.taskD s).allDeps.foldl (fun m dp =>
    if dp.hasOpts && (e.taskChain t).contains dp.target && !dp.onstart then max m dp.gap else m) 0

/-- **the backward deadline respects every scheduled successor**: it is at or before the successor's start minus the
    gap the successor asks for -/
theorem latestEnd_le_succ (e : Env) (σ : St) (t s : Nat) (hs : s ∈ successors e t) (ss : Int)
    (hss : (σ.tst s).start = some ss) : latestEnd e σ t ≤ ss - succGap e t s := by
  unfold latestEnd
  simp only []
  refine (foldl_step_le _ (successors e t) _ ?_).2 s hs _ ?_
  · intro acc x
    split
    · exact Int.le_refl _
    · exact Int.min_le_left _ _
  · intro acc
    simp only [hss]
    exact Int.min_le_right _ _

theorem latestEnd_le_stop (e : Env) (σ : St) (t : Nat) : latestEnd e σ t ≤ e.stop := by
  unfold latestEnd
  simp only []
  refine Int.le_trans (foldl_step_le _ _ _ ?_).1 (foldl_step_le _ _ _ ?_).1
  · intro acc s; split
    · exact Int.le_refl _
    · exact Int.min_le_left _ _
  · intro acc dp; split
    · split
      · exact Int.min_le_left _ _
      · exact Int.le_refl _
    · exact Int.le_refl _

end SP
