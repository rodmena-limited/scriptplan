import Proofs.Closed
import Proofs.Frame
/-!
C05, the link between the ledger and the limit counters: in every state the scheduler reaches, every limit counter is at
least the number of ledger entries the limit covers in that period.  Together with `Inv.cnt` (counter ≤ value) this
bounds the *booked* slots, and with `SlotInv` the booked seconds, by the limit.
-/
namespace SP

/-- a ledger entry: resource, slot, task -/
abbrev Trip := Nat × Int × Nat

/-- `Limit.inc(index, resource)` counts (no resource filter, or the filter names this resource) -/
def applies (e : Env) (q : Nat × Option Nat) : Bool := !((e.limitD q.1).res.isSome && (e.limitD q.1).res != q.2)

/-- limit `lid` is one of those a booking of resource `r` by task `t` increments -/
def covers (e : Env) (lid r t : Nat) : Prop := ∃ q ∈ bookPairs e r t, q.1 = lid ∧ applies e q = true

def hasEntry (σ : St) (x : Trip) : Prop := usageOf (σ.led.get x.1 x.2.1).usage x.2.2 ≠ none

/-- a duplicate-free list of entries of the ledger that limit `lid` covers in its period `p` -/
def Valid (e : Env) (σ : St) (lid : Nat) (p : Int) (L : List Trip) : Prop :=
  L.Nodup ∧ ∀ x ∈ L, hasEntry σ x ∧ covers e lid x.1 x.2.2 ∧ e.period (e.limitD lid) x.2.1 = p

/-- every counter is at least the number of covered entries -/
def Counted (e : Env) (σ : St) : Prop :=
  ∀ lid p L, 0 ≤ p → Valid e σ lid p L → (L.length : Int) ≤ σ.cnt.get lid p

theorem limitInc_cnt_ge (e : Env) (σ : St) (lid : Nat) (i : Int) (r : Option Nat) (l : Nat) (k : Int) :
    σ.cnt.get l k ≤ (limitInc e σ lid i r).cnt.get l k := by
  unfold limitInc; simp only []
  split
  · exact Int.le_refl _
  · split
    · exact Int.le_refl _
    · simp only [Counters.get_set]
      split
      · rename_i h; rw [← h.1, ← h.2]; omega
      · exact Int.le_refl _

theorem incAll_cnt_ge (e : Env) (σ : St) (ps : List (Nat × Option Nat)) (i : Int) (l : Nat) (k : Int) :
    σ.cnt.get l k ≤ (incAll e σ ps i).cnt.get l k := by
  induction ps generalizing σ with
  | nil => exact Int.le_refl _
  | cons q qs ih =>
    simp only [incAll, List.foldl_cons]
    exact Int.le_trans (limitInc_cnt_ge e σ q.1 i q.2 l k) (ih (limitInc e σ q.1 i q.2))

theorem incAll_cnt_covered (e : Env) (σ : St) (ps : List (Nat × Option Nat)) (i : Int) (q : Nat × Option Nat) (hq : q ∈ ps)
    (ha : applies e q = true) (hp : 0 ≤ e.period (e.limitD q.1) i) :
    σ.cnt.get q.1 (e.period (e.limitD q.1) i) + 1 ≤ (incAll e σ ps i).cnt.get q.1 (e.period (e.limitD q.1) i) := by
  induction ps generalizing σ with
  | nil => cases hq
  | cons x xs ih =>
    simp only [incAll, List.foldl_cons]
    rcases List.mem_cons.mp hq with h | h
    · subst h
      have h1 := limitInc_cnt_same e σ q.1 i q.2 ((Bool.not_eq_true' _).mp ha) hp
      have h2 := incAll_cnt_ge e (limitInc e σ q.1 i q.2) xs i q.1 (e.period (e.limitD q.1) i)
      simp only [incAll] at h2
      omega
    · have h1 := limitInc_cnt_ge e σ x.1 i x.2 q.1 (e.period (e.limitD q.1) i)
      have h2 := ih (limitInc e σ x.1 i x.2) h
      simp only [incAll] at h2
      omega

theorem Counted.mono {e : Env} {σ σ' : St} (h : Counted e σ) (hent : ∀ x, hasEntry σ' x → hasEntry σ x)
    (hcnt : ∀ lid p, σ.cnt.get lid p ≤ σ'.cnt.get lid p) : Counted e σ' := by
  intro lid p L hp hv
  have : Valid e σ lid p L := ⟨hv.1, fun x hx => ⟨hent x (hv.2 x hx).1, (hv.2 x hx).2⟩⟩
  exact Int.le_trans (h lid p L hp this) (hcnt lid p)

theorem counted_set_slot {e : Env} {σ : St} (h : Counted e σ) (r : Nat) (i : Int) (s' : Slot)
    (hs : ∀ t, usageOf s'.usage t ≠ none → usageOf (σ.led.get r i).usage t ≠ none) :
    Counted e { σ with led := σ.led.set r i s' } := by
  apply h.mono
  · intro x hx
    unfold hasEntry at hx ⊢
    simp only [Ledger.get_set] at hx
    split at hx
    · rename_i heq; rw [← heq.1, ← heq.2]; exact hs _ hx
    · exact hx
  · intro lid p; exact Int.le_refl _

/-- the ledger and mark part of `bookSlot` -/
def bookLed (e : Env) (σ : St) (r : Nat) (i : Int) (t : Nat) : St :=
  { σ with led := σ.led.set r i ((σ.led.get r i).book e.G t), marks := σ.marks.set r (e.norm i) }

theorem bookSlot_eq' (e : Env) (σ : St) (r : Nat) (i : Int) (t : Nat) :
    (bookSlot e σ r i t).1 = incAll e (bookLed e σ r i t) (bookPairs e r t) i := bookSlot_eq e σ r i t

theorem counted_bookSlot (e : Env) (σ : St) (r : Nat) (i : Int) (t : Nat) (h : Counted e σ) :
    Counted e (bookSlot e σ r i t).1 := by
  rw [bookSlot_eq']
  intro lid p L hp hv
  -- entries of the new state: the old ones and (r, i, t)
  have hent : ∀ x : Trip, hasEntry (incAll e (bookLed e σ r i t) (bookPairs e r t) i) x → hasEntry σ x ∨ x = (r, i, t) := by
    intro x hx
    unfold hasEntry at hx ⊢
    rw [incAll_led] at hx
    simp only [bookLed, Ledger.get_set] at hx
    split at hx
    · rename_i heq
      rcases book_entry e.G _ t _ hx with h1 | h1
      · left; rw [← heq.1, ← heq.2]; exact h1
      · right
        obtain ⟨a, b, c⟩ := x
        simp only at heq h1 ⊢
        rw [← heq.1, ← heq.2, h1]
    · exact Or.inl hx
  have hge := incAll_cnt_ge e (bookLed e σ r i t) (bookPairs e r t) i lid p
  have hge' : σ.cnt.get lid p ≤ (incAll e (bookLed e σ r i t) (bookPairs e r t) i).cnt.get lid p := hge
  by_cases hnew : (r, i, t) ∈ L ∧ ¬ hasEntry σ (r, i, t)
  · obtain ⟨hmem, hne⟩ := hnew
    -- drop the new entry: what is left was already there
    have hv' : Valid e σ lid p (L.erase (r, i, t)) := by
      refine ⟨hv.1.erase _, fun x hx => ?_⟩
      have hxL : x ∈ L := List.mem_of_mem_erase hx
      have hxne : x ≠ (r, i, t) := fun heq => by
        rw [heq] at hx; exact (List.Nodup.not_mem_erase hv.1) hx
      obtain ⟨h1, h2⟩ := hv.2 x hxL
      rcases hent x h1 with h3 | h3
      · exact ⟨h3, h2⟩
      · exact absurd h3 hxne
    have hlen := h lid p _ hp hv'
    rw [List.length_erase_of_mem hmem] at hlen
    have hpos : 0 < L.length := List.length_pos_of_mem hmem
    obtain ⟨_, ⟨q, hq, hq1, hqa⟩, hper⟩ := hv.2 _ hmem
    simp only at hper
    have hinc := incAll_cnt_covered e (bookLed e σ r i t) (bookPairs e r t) i q hq hqa (by rw [hq1, hper]; exact hp)
    rw [hq1, hper] at hinc
    have hinc' : σ.cnt.get lid p + 1 ≤ (incAll e (bookLed e σ r i t) (bookPairs e r t) i).cnt.get lid p := hinc
    omega
  · have hv' : Valid e σ lid p L := by
      refine ⟨hv.1, fun x hx => ?_⟩
      obtain ⟨h1, h2⟩ := hv.2 x hx
      rcases hent x h1 with h3 | h3
      · exact ⟨h3, h2⟩
      · subst h3
        by_cases hh : hasEntry σ (r, i, t)
        · exact ⟨hh, h2⟩
        · exact absurd ⟨hx, hh⟩ hnew
    exact Int.le_trans (h lid p L hp hv') hge'

theorem counted_closed (e : Env) : Closed e (Counted e) where
  eq := by
    intro σ σ' hl hc _ h
    apply h.mono
    · intro x hx; unfold hasEntry at hx ⊢; rw [hl] at hx; exact hx
    · intro lid p; rw [hc]; exact Int.le_refl _
  reserve := by
    intro σ r i off _ _ _ h
    unfold reserveAt
    exact counted_set_slot h r i _ (fun t ht => by rw [reserve_usage] at ht; exact ht)
  release := by
    intro σ r i t a _ _ _ _ h
    exact counted_set_slot h r i _ (fun t' ht => release_entry _ t t' a ht)
  book := by
    intro σ r i t _ _ _ _ _ _ _ h
    exact counted_bookSlot e σ r i t h

theorem counted_init (e : Env) : Counted e (initState e) := by
  intro lid p L _ hv
  cases L with
  | nil => simp [initState, Counters.get_empty]
  | cons x xs =>
    have := (hv.2 x List.mem_cons_self).1
    unfold hasEntry at this
    simp [initState, Ledger.get_empty, usageOf] at this

/-- **every state a scenario run ends in**: each counter is at least the number of ledger entries its limit covers -/
theorem runScenario_counted (e : Env) (wf : WF e) : Counted e (runScenario e) :=
  runScenario_closed (counted_closed e) wf (fun _ => trivial) (counted_init e)

/-- hence the number of covered ledger entries of any period is at most the limit -/
theorem runScenario_entries_le_limit (e : Env) (wf : WF e) (lid : Nat) (p : Int) (L : List Trip) (hp : 0 ≤ p)
    (hv : Valid e (runScenario e) lid p L) : (L.length : Int) ≤ max 0 (e.limitD lid).value :=
  Int.le_trans (runScenario_counted e wf lid p L hp hv) ((runScenario_inv e wf).cnt lid p)

/-- seconds the ledger records for an entry -/
def tripSecs (σ : St) (x : Trip) : Rat := (usageOf (σ.led.get x.1 x.2.1).usage x.2.2).getD 0

def sumTrips (σ : St) : List Trip → Rat
  | [] => 0
  | x :: xs => tripSecs σ x + sumTrips σ xs

theorem tripSecs_le_G {e : Env} {σ : St} (wf : WF e) (hi : Inv e σ) (x : Trip) : tripSecs σ x ≤ (e.G : Rat) := by
  unfold tripSecs
  have hs := hi.slot x.1 x.2.1
  cases hu : usageOf (σ.led.get x.1 x.2.1).usage x.2.2 with
  | none => exact G_rat_nonneg wf
  | some b =>
    have hm := mem_le_usageSum _ hs.entries_nonneg _ (usageOf_mem hu)
    have h1 := hs.sum_le
    have h2 := hs.used_le
    show b ≤ (e.G : Rat)
    simp only at hm
    grind

theorem sumTrips_le {e : Env} {σ : St} (wf : WF e) (hi : Inv e σ) (L : List Trip) :
    sumTrips σ L ≤ (L.length : Rat) * (e.G : Rat) := by
  induction L with
  | nil => simp only [sumTrips, List.length_nil]; grind
  | cons x xs ih =>
    simp only [sumTrips, List.length_cons]
    have := tripSecs_le_G wf hi x
    have hc : ((xs.length + 1 : Nat) : Rat) = (xs.length : Rat) + 1 := by push_cast; rfl
    rw [hc, Rat.add_mul, Rat.one_mul, Rat.add_comm]
    grind

/-- **booked time per period ≤ limit**: the seconds the final ledger records in any duplicate-free list of entries a limit
    covers in one of its periods are at most `value` slots of `G` seconds -/
theorem runScenario_secs_le_limit (e : Env) (wf : WF e) (lid : Nat) (p : Int) (L : List Trip) (hp : 0 ≤ p)
    (hv : Valid e (runScenario e) lid p L) :
    sumTrips (runScenario e) L ≤ (max 0 (e.limitD lid).value : Int) * (e.G : Rat) := by
  have h1 := sumTrips_le wf (runScenario_inv e wf) L
  have h2 := runScenario_entries_le_limit e wf lid p L hp hv
  have hG := G_rat_nonneg wf
  have h3 : (L.length : Rat) ≤ ((max 0 (e.limitD lid).value : Int) : Rat) := by exact_mod_cast h2
  have h4 : (L.length : Rat) * (e.G : Rat) ≤ ((max 0 (e.limitD lid).value : Int) : Rat) * (e.G : Rat) :=
    Rat.mul_le_mul_of_nonneg_right h3 hG
  exact Rat.le_trans h1 h4

end SP
