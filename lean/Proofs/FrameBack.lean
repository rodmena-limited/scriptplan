import Proofs.FrameWalk
import Proofs.EffortGlobal
import Proofs.Deadline
/-!
C06 along the backward walk of a single-resource task: the slot in which the task finishes (the earliest it books) is the
slot its start lies in, its end is the end of the first slot it booked (the latest), and every booking lies between the two.
Then the pick loop, for both directions at once.
-/
namespace SP

/-- where the latest booking of the task lies among the slots visited so far, as recorded in the walk -/
def Bfst (σ : St) (t r : Nat) (w : Walk) (vis : List Int) : Prop :=
  (w.firstBooked = none → ∀ i ∈ vis, usageOf (σ.led.get r i).usage t = none) ∧
  (∀ fb, w.firstBooked = some fb → fb ∈ vis ∧ usageOf (σ.led.get r fb).usage t ≠ none ∧
      ∀ i ∈ vis, usageOf (σ.led.get r i).usage t ≠ none → i ≤ fb)

/-- invariant of the backward walk of a single-resource task -/
structure BInv (e : Env) (σ : St) (t r : Nat) (w : Walk) (vis : List Int) : Prop where
  acc : Acc e σ t r false w vis
  inb : t < σ.ts.size
  bwd : (σ.tst t).forward = false
  bfst : Bfst σ t r w vis

/-- the first booked slot as the backward loop records it after a slot -/
def fbAfter (w w1 : Walk) : Option Int :=
  if w1.firstBooked.isNone && decide (w1.done > w.done) then some w1.cur else w1.firstBooked

theorem advance_back_firstBooked (w w1 : Walk) : (advance false w w1).firstBooked = fbAfter w w1 := by
  unfold advance fbAfter; simp

theorem Bfst.of_firstBooked {σ : St} {t r : Nat} {w w' : Walk} {vis : List Int} (h : w'.firstBooked = w.firstBooked)
    (hb : Bfst σ t r w vis) : Bfst σ t r w' vis := by
  unfold Bfst at *; rw [h]; exact hb

theorem Bfst.transfer {σ σ' : St} {t r : Nat} {w : Walk} {vis : List Int}
    (hent : ∀ i ∈ vis, (usageOf (σ'.led.get r i).usage t = none ↔ usageOf (σ.led.get r i).usage t = none))
    (h : Bfst σ t r w vis) : Bfst σ' t r w vis := by
  refine ⟨fun hn i hi => (hent i hi).mpr (h.1 hn i hi), fun fb hfb => ?_⟩
  obtain ⟨h1, h2, h3⟩ := h.2 fb hfb
  exact ⟨h1, fun hc => h2 ((hent fb h1).mp hc), fun i hi hni => h3 i hi (fun hc => hni ((hent i hi).mpr hc))⟩

theorem closeWalk_back_firstBooked (w w1 : Walk) : (closeWalk false w w1).firstBooked = fbAfter w w1 := by
  unfold closeWalk fbAfter; simp

theorem book_bfst (e : Env) (wf : WF e) (σ : St) (t r : Nat) (w : Walk) (vis : List Int)
    (ha : (e.taskD t).hasAlloc = true) (hsel : selectedOf e σ t w = [r]) (h : BInv e σ t r w vis) :
    Bfst (bookResources e σ t w).1 t r
      { (bookResources e σ t w).2 with firstBooked := fbAfter w (bookResources e σ t w).2 } (w.cur :: vis) := by
  obtain ⟨hvis, hcase⟩ := book_facts e wf σ t r false w vis ha hsel h.acc
  have hfb1 := bookResources_firstBooked e σ t w
  have hcur1 := (bookResources_walk e σ t w).1
  have hbefore : ∀ i ∈ vis, w.cur < i := by
    intro i hi; have := h.acc.before i hi; simpa using this
  rcases hcase with ⟨hn, hd⟩ | ⟨hne, hd⟩
  · -- nothing booked in this slot
    have hfa : fbAfter w (bookResources e σ t w).2 = w.firstBooked := by
      unfold fbAfter
      have : ¬ ((bookResources e σ t w).2.done > w.done) := by rw [hd]; exact Rat.lt_irrefl
      simp [this, hfb1]
    refine ⟨?_, ?_⟩
    · intro hnone i hi
      simp only [hfa] at hnone
      rcases List.mem_cons.mp hi with hi | hi
      · subst hi; exact hn
      · rw [hvis i hi]; exact h.bfst.1 hnone i hi
    · intro fb hfb
      simp only [hfa] at hfb
      obtain ⟨h1, h2, h3⟩ := h.bfst.2 fb hfb
      refine ⟨List.mem_cons_of_mem _ h1, by rw [hvis fb h1]; exact h2, ?_⟩
      intro i hi hni
      rcases List.mem_cons.mp hi with hi | hi
      · subst hi; exact absurd hn hni
      · apply h3 i hi; rw [← hvis i hi]; exact hni
  · -- booked in this slot
    cases hfbw : w.firstBooked with
    | none =>
      have hfa : fbAfter w (bookResources e σ t w).2 = some w.cur := by
        unfold fbAfter
        simp [hfb1, hfbw, hd, hcur1]
      refine ⟨?_, ?_⟩
      · intro hnone; simp only [hfa] at hnone; cases hnone
      · intro fb hfb
        simp only [hfa] at hfb
        have : fb = w.cur := by simpa using hfb.symm
        subst this
        refine ⟨List.mem_cons_self, hne, ?_⟩
        intro i hi hni
        rcases List.mem_cons.mp hi with hi | hi
        · omega
        · exfalso; apply hni; rw [hvis i hi]; exact h.bfst.1 hfbw i hi
    | some fb0 =>
      have hfa : fbAfter w (bookResources e σ t w).2 = some fb0 := by
        unfold fbAfter; simp [hfb1, hfbw]
      obtain ⟨h1, h2, h3⟩ := h.bfst.2 fb0 hfbw
      refine ⟨?_, ?_⟩
      · intro hnone; simp only [hfa] at hnone; cases hnone
      · intro fb hfb
        simp only [hfa] at hfb
        have : fb = fb0 := by simpa using hfb.symm
        subst this
        refine ⟨List.mem_cons_of_mem _ h1, by rw [hvis fb h1]; exact h2, ?_⟩
        intro i hi hni
        rcases List.mem_cons.mp hi with hi | hi
        · subst hi; have := hbefore fb h1; omega
        · apply h3 i hi; rw [← hvis i hi]; exact hni


/-- what a finished backward walk leaves behind -/
def BackDone (e : Env) (σ : St) (t r : Nat) (fbOpt : Option Int) : Prop :=
  ∃ lo fb : Int, fbOpt = some fb ∧ lo ≤ fb ∧
    usageOf (σ.led.get r lo).usage t ≠ none ∧ usageOf (σ.led.get r fb).usage t ≠ none ∧
    (∀ i, usageOf (σ.led.get r i).usage t ≠ none → lo ≤ i ∧ i ≤ fb) ∧
    (∃ v, (σ.tst t).start = some v ∧ e.time lo ≤ v ∧ v ≤ e.time (lo + 1))

theorem scheduleSlot_binv (e : Env) (wf : WF e) (σ : St) (t r : Nat) (w : Walk) (vis : List Int)
    (hinv : Inv e σ) (hlf : (e.taskD t).leaf = true) (hw : WalkOk e t w)
    (ha : (e.taskD t).hasAlloc = true) (hm : (e.taskD t).milestone = false)
    (hsel : selectedOf e σ t w = [r]) (hlt : w.done < (e.taskD t).effort) (hpos : 0 < (e.taskD t).effort)
    (h : BInv e σ t r w vis) :
    ((scheduleSlot e σ t w).2.2 = true →
        BInv e (scheduleSlot e σ t w).1 t r (advance false w (scheduleSlot e σ t w).2.1) (w.cur :: vis)) ∧
    ((scheduleSlot e σ t w).2.2 = false →
        BackDone e (scheduleSlot e σ t w).1 t r (fbAfter w (scheduleSlot e σ t w).2.1)) := by
  have hsa := scheduleSlot_acc e wf σ t r false w vis hinv hlf hw ha hm hsel hlt hpos h.acc
  have hbf := book_bfst e wf σ t r w vis ha hsel h
  constructor
  · intro hc
    obtain ⟨hs1, hs2⟩ := scheduleSlot_effort_true e σ t w hm hpos hc
    have hfr := bookResources_frame e σ t w
    refine ⟨(hsa.1 hc).1, ?_, ?_, ?_⟩
    · rw [hs1, hfr.2.2.2.2]; exact h.inb
    · rw [hs1, hfr.2.2.2.1]; exact h.bwd
    · rw [hs1]
      exact Bfst.of_firstBooked (by rw [advance_back_firstBooked, hs2]) hbf
  · intro hc
    obtain ⟨hwalk, hgt, hcurne, hent, X, hX0, hXG, -, -, hbwd⟩ :=
      scheduleSlot_finish_single e wf σ t r w hinv hlf hw ha hm hsel hlt hpos (h.acc.only _ h.acc.cur_notin) h.inb hc
    have hin : ∀ i, usageOf ((scheduleSlot e σ t w).1.led.get r i).usage t ≠ none → i ∈ w.cur :: vis :=
      fun i hi => Classical.byContradiction (fun hmem => hi ((hsa.2 hc).2.1 i hmem))
    -- the first booked slot is known: the task has just gained effort
    have hsome : ∃ fb, fbAfter w (bookResources e σ t w).2 = some fb := by
      unfold fbAfter
      cases (bookResources e σ t w).2.firstBooked with
      | none => exact ⟨(bookResources e σ t w).2.cur, by simp [hgt]⟩
      | some x => exact ⟨x, by simp⟩
    obtain ⟨fb, hfb⟩ := hsome
    obtain ⟨hfbmem, hfbne, hmax⟩ := (Bfst.transfer (fun i _ => hent i) hbf).2 fb hfb
    have hge : ∀ i ∈ w.cur :: vis, w.cur ≤ i := by
      intro i hi
      rcases List.mem_cons.mp hi with hh | hh
      · omega
      · have := h.acc.before i hh
        simp only [Bool.false_eq_true, if_false] at this
        omega
    rw [hwalk]
    exact ⟨w.cur, fb, hfb, hge fb hfbmem, fun hn => hcurne ((hent w.cur).mp hn), hfbne,
      fun i hi => ⟨hge i (hin i hi), hmax i (hin i hi) hi⟩, _, hbwd h.bwd, by rw [time_succ]; omega⟩

theorem finalT_framed_back (e : Env) (wf : WF e) (σ : St) (t r : Nat) (c : Int) (w1 : Walk) (hb : t < σ.ts.size)
    (hpos : 0 < (e.taskD t).effort) (h : BackDone e σ t r w1.firstBooked) :
    Framed e (σ.setT t (finalT e t false c (σ.tst t) w1)) t r ∧
    Ordered (σ.setT t (finalT e t false c (σ.tst t) w1)) t := by
  obtain ⟨lo, fb, hfbw, hle, hlone, hfbne, hall, v, hv, hv1, hv2⟩ := h
  obtain ⟨hd1, hd2⟩ := finalT_dates e t false c (σ.tst t) w1 v hv hpos
  simp only [Bool.false_eq_true, if_false, hfbw, Option.getD_some] at hd2
  have hts := tst_setT_same σ t (finalT e t false c (σ.tst t) w1) hb
  have hord : v ≤ e.time (fb + 1) := Int.le_trans hv2 (time_mono e wf.G_pos _ _ (by omega))
  exact ⟨⟨lo, fb, hle, hlone, hfbne, hall, ⟨v, by rw [hts, hd1], hv1, hv2⟩,
      ⟨_, by rw [hts, hd2], time_mono e wf.G_pos _ _ (by omega), Int.le_refl _⟩⟩,
    v, _, by rw [hts, hd1], by rw [hts, hd2], hord⟩

/-- **one backward task, framing**: a successful `scheduleTask` of a backward effort task with the single resource `r`,
    started with nothing of the task on `r`, leaves it framed: bookings between the finishing slot and the first booked
    slot, start inside the former, end = end of the latter -/
theorem scheduleTask_framed_back_sel2 (e : Env) (wf : WF e) (σ : St) (t r : Nat)
    (hinv : Inv e σ) (hlf : (e.taskD t).leaf = true) (hal : (e.taskD t).hasAlloc = true)
    (hnm : (e.taskD t).milestone = false) (hpos : 0 < (e.taskD t).effort)
    (hsel0 : selectBest e (σ.setT t (σ.tst t)) (e.taskD t).alloc (e.taskD t).alt (e.taskD t).effort (initCursor e σ t).1 = [r])
    (hb : t < σ.ts.size) (hf : (σ.tst t).forward = false)
    (hnd : (σ.tst t).done = false) (hclean : ∀ i, usageOf (σ.led.get r i).usage t = none)
    (hok : (scheduleTask e σ t).2 = true) : Framed e (scheduleTask e σ t).1 t r ∧ Ordered (scheduleTask e σ t).1 t := by
  obtain ⟨σl, wl, visl, hbi, -, hinvl, hwl, hsel, hlt, hcl, heq⟩ := scheduleTask_walk_single
    (J := fun σ w vis => BInv e σ t r w vis) e wf σ t r false hinv hlf hal hnm hpos hsel0 hf hnd hclean hok
    ⟨acc_start e _ t r false _ rfl hclean, by rw [size_setT]; exact hb, by rw [tst_setT_same _ _ _ hb]; exact hf,
      fun _ i hi => absurd hi List.not_mem_nil, fun fb hfb => by simp at hfb⟩
    (fun σ' w vis hi hw hs hl hJ hc => (scheduleSlot_binv e wf σ' t r w vis hi hlf hw hal hnm hs hl hpos hJ).1 hc)
  have hbd := (scheduleSlot_binv e wf σl t r wl visl hinvl hlf hwl hal hnm hsel hlt hpos hbi).2 hcl
  rw [← closeWalk_back_firstBooked] at hbd
  rw [heq]
  exact finalT_framed_back e wf _ t r _ _ (by rw [(scheduleSlot_frame e σl t wl).2.2.2.2]; exact hbi.inb) hpos hbd

theorem scheduleTask_framed_back_sel (e : Env) (wf : WF e) (σ : St) (t r : Nat)
    (hinv : Inv e σ) (hlf : (e.taskD t).leaf = true) (hal : (e.taskD t).hasAlloc = true)
    (hnm : (e.taskD t).milestone = false) (hpos : 0 < (e.taskD t).effort)
    (hsel0 : selectBest e (σ.setT t (σ.tst t)) (e.taskD t).alloc (e.taskD t).alt (e.taskD t).effort (initCursor e σ t).1 = [r])
    (hb : t < σ.ts.size) (hf : (σ.tst t).forward = false)
    (hnd : (σ.tst t).done = false) (hclean : ∀ i, usageOf (σ.led.get r i).usage t = none)
    (hok : (scheduleTask e σ t).2 = true) : Framed e (scheduleTask e σ t).1 t r :=
  (scheduleTask_framed_back_sel2 e wf σ t r hinv hlf hal hnm hpos hsel0 hb hf hnd hclean hok).1

/-- **one backward task, framing**, for a task whose selection is `[r]` in every state -/
theorem scheduleTask_framed_back (e : Env) (wf : WF e) (σ : St) (t r : Nat)
    (hinv : Inv e σ) (hel : Elig e t r) (hb : t < σ.ts.size) (hf : (σ.tst t).forward = false)
    (hnd : (σ.tst t).done = false) (hclean : ∀ i, usageOf (σ.led.get r i).usage t = none)
    (hok : (scheduleTask e σ t).2 = true) : Framed e (scheduleTask e σ t).1 t r :=
  scheduleTask_framed_back_sel e wf σ t r hinv hel.leaf hel.alloc hel.nomile hel.effort (hel.sel _ _) hb hf hnd hclean hok

/-- an effort task (no milestone) whose allocation always selects a single resource, one of those in `P` -/
structure EligIn (e : Env) (t : Nat) (P : Nat → Prop) : Prop where
  leaf : (e.taskD t).leaf = true
  alloc : (e.taskD t).hasAlloc = true
  nomile : (e.taskD t).milestone = false
  effort : 0 < (e.taskD t).effort
  sel : ∀ σ c, ∃ r, P r ∧ selectBest e σ (e.taskD t).alloc (e.taskD t).alt (e.taskD t).effort c = [r]

theorem Elig.toIn {e : Env} {t r : Nat} (h : Elig e t r) : EligIn e t (· = r) :=
  ⟨h.leaf, h.alloc, h.nomile, h.effort, fun σ c => ⟨r, rfl, h.sel σ c⟩⟩

/-- every completed task that selects single resources is framed on one of them, and its dates are ordered -/
def DoneSingle (e : Env) (σ : St) : Prop :=
  ∀ t P, EligIn e t P → (σ.tst t).done = true → ∃ r, P r ∧ Framed e σ t r ∧ Ordered σ t

/-- **one task, either direction**: framed on the resource selected at its first slot, with start ≤ end -/
theorem scheduleTask_single (e : Env) (wf : WF e) (σ : St) (t : Nat) (P : Nat → Prop) (hinv : Inv e σ)
    (hel : EligIn e t P) (hb : t < σ.ts.size) (hnd : (σ.tst t).done = false)
    (hclean : ∀ r i, usageOf (σ.led.get r i).usage t = none) (hok : (scheduleTask e σ t).2 = true) :
    ∃ r, P r ∧ Framed e (scheduleTask e σ t).1 t r ∧ Ordered (scheduleTask e σ t).1 t := by
  obtain ⟨r, hr, hsel⟩ := hel.sel (σ.setT t (σ.tst t)) (initCursor e σ t).1
  cases hfw : (σ.tst t).forward with
  | true =>
    exact ⟨r, hr, scheduleTask_framed_sel2 e wf σ t r hinv hel.leaf hel.alloc hel.nomile hel.effort hsel hb hfw hnd
      (hclean r) hok⟩
  | false =>
    exact ⟨r, hr, scheduleTask_framed_back_sel2 e wf σ t r hinv hel.leaf hel.alloc hel.nomile hel.effort hsel hb hfw hnd
      (hclean r) hok⟩

/-- **C06, both modes, end to end**: after scheduling any well-formed project, every completed effort task that selects
    single resources is framed on one of them — its bookings there lie between a first and a last booked slot, the
    reported start lies in the first, the reported end in the last — and its start is not after its end. -/
theorem runScenario_single (e : Env) (wf : WF e) : DoneSingle e (runScenario e) := by
  obtain ⟨-, -, -, h⟩ := scenario_induct
    (I := fun tasks _ σ => (Inv e σ ∧ tasks.Nodup ∧ (∀ t ∈ tasks, (e.taskD t).leaf = true) ∧ (∀ t ∈ tasks, t < σ.ts.size) ∧
      ∀ t ∈ tasks, (σ.tst t).done = false ∧ ∀ r i, usageOf (σ.led.get r i).usage t = none) ∧ DoneSingle e σ)
    (fun tasks _ σ t0 ⟨⟨hinv, hnd, hlf, hin, hp⟩, hok⟩ hf => by
      have hmem := List.mem_of_find?_eq_some hf
      exact ⟨round_pending e wf σ tasks t0 hinv hnd hlf hin hp hmem, fun t P hel => round_done
        (E := fun t => EligIn e t P) (P := fun σ t => ∃ r, P r ∧ Framed e σ t r ∧ Ordered σ t)
        (fun _ h => h.leaf)
        (fun _ _ _ hse hts ⟨r, hr, hf, ho⟩ => ⟨r, hr, Framed.of_same hse hts hf, Ordered.of_tst hts ho⟩)
        (fun σ t hinv hel hb hnd hcl hok => scheduleTask_single e wf σ t P hinv hel hb hnd hcl hok)
        σ t0 hinv (hin t0 hmem) (hp t0 hmem) (fun t hel => hok t P hel) t hel⟩)
    (fun _ _ σ _ ⟨⟨hinv, h⟩, hok⟩ => ⟨⟨Inv.of_eq (σ := σ) rfl rfl hinv, h⟩, hok⟩)
    ⟨⟨loopStart_inv e wf, todoOf_nodup e _, todoOf_leaf e _, fun t ht => (todoOf_loopStart e t ht).2.1,
      fun t ht => ⟨(todoOf_loopStart e t ht).2.2.2.1, (todoOf_loopStart e t ht).2.2.2.2⟩⟩,
     fun t _ _ hd => absurd hd (by rw [loopStart_done]; exact Bool.noConfusion)⟩
  intro t P hel hd
  unfold runScenario at hd ⊢
  rw [finishScenario_leafT e _ t hel.leaf] at hd
  obtain ⟨r, hr, hf, ho⟩ := h t P hel hd
  exact ⟨r, hr, Framed.of_same (SameEntries.of_led (finishScenario_led e _)) (finishScenario_leafT e _ t hel.leaf) hf,
    Ordered.of_tst (finishScenario_leafT e _ t hel.leaf) ho⟩

/-- every completed forward task with a single selected resource is framed -/
def DoneFramed (e : Env) (σ : St) : Prop :=
  ∀ t r, Elig e t r → (σ.tst t).done = true → (σ.tst t).forward = true → Framed e σ t r

structure FrInv (e : Env) (σ : St) (tasks : List Nat) : Prop where
  inv : Inv e σ
  nodup : tasks.Nodup
  leaf : ∀ t ∈ tasks, (e.taskD t).leaf = true
  inrange : ∀ t ∈ tasks, t < σ.ts.size
  pending : ∀ t ∈ tasks, (σ.tst t).done = false ∧ ∀ r i, usageOf (σ.led.get r i).usage t = none
  ok : DoneFramed e σ

/-- every completed task with a single selected resource is framed — forward or backward -/
def DoneFramedAll (e : Env) (σ : St) : Prop :=
  ∀ t r, Elig e t r → (σ.tst t).done = true → Framed e σ t r

structure FrInvAll (e : Env) (σ : St) (tasks : List Nat) : Prop where
  inv : Inv e σ
  nodup : tasks.Nodup
  leaf : ∀ t ∈ tasks, (e.taskD t).leaf = true
  inrange : ∀ t ∈ tasks, t < σ.ts.size
  pending : ∀ t ∈ tasks, (σ.tst t).done = false ∧ ∀ r i, usageOf (σ.led.get r i).usage t = none
  ok : DoneFramedAll e σ

/-- **C06, both modes, end to end**: after scheduling any well-formed project, every completed effort task with a single
    selected resource `r` is framed -/
theorem runScenario_framed_all (e : Env) (wf : WF e) : DoneFramedAll e (runScenario e) := by
  intro t r hel hd
  obtain ⟨_, rfl, hf, -⟩ := runScenario_single e wf t (· = r) hel.toIn hd
  exact hf

/-- **C06, forward mode, end to end**: after scheduling any well-formed project, every completed forward effort task
    with a single selected resource `r` is framed: its bookings on `r` lie between a first and a last booked slot, the
    reported start lies in the first, the reported end in the last. -/
theorem runScenario_framed (e : Env) (wf : WF e) : DoneFramed e (runScenario e) :=
  fun t r hel hd _ => runScenario_framed_all e wf t r hel hd

end SP
