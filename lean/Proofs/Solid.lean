import Proofs.Closed
import Proofs.Counted
import Proofs.Frame
import Proofs.Loop
import Proofs.TeamAll
/-!
Facts about every state the scheduler reaches, needed to read "the resource was not available" (what the walk sees) as
"the slot is booked, or a limit is used up" (what ledger and counters say).  `Solid`: a slot without entries still has room
— a reservation never fills a slot by itself — and a marked slot carries an entry.  `Has`: a slot that carries an entry
carries one for ever.  `Refuses` / `Tight` / `Exhausted`: a limit that refuses a booking has its counter at the limit
(`limitOk_false_iff`) and keeps refusing, since counters only grow.  Each is `Closed`.  Used by C07, C08 and C11.
-/
namespace SP

structure Solid (e : Env) (σ : St) : Prop where
  room : ∀ r i, (σ.led.get r i).usage = [] → availSecs e.G (σ.led.get r i) > 0
  marked : ∀ r j, σ.marks.get r j = true → (σ.led.get r j).usage ≠ []

theorem solid_closed (e : Env) : Closed e (Solid e) :=
  (closed_of_slots (fun _ _ s m => (s.usage = [] → availSecs e.G s > 0) ∧ (m = true → s.usage ≠ []))
    (fun _ _ s _ off _ h1 h => by
      rw [reserve_usage]
      refine ⟨fun hu => (availSecs_pos_iff e.G _).mpr ?_, h.2⟩
      have := (availSecs_pos_iff e.G _).mp (h.1 hu)
      unfold Slot.reserve
      split
      · exact h1
      · exact this)
    (fun _ _ s _ t a _ h =>
      ⟨fun hu => by
        have hn := (release_usage_nil_iff s t a).mp hu
        rw [release_of_nil s t a hn]
        exact h.1 hn,
      fun hm hu => h.2 hm ((release_usage_nil_iff s t a).mp hu)⟩)
    (fun _ _ s _ t _ _ => ⟨fun hu => by simp [Slot.book] at hu, fun _ => by simp [Slot.book]⟩)).of_iff
    (fun σ => ⟨fun h r i => ⟨h.room r i, h.marked r i⟩, fun h => ⟨fun r i => (h r i).1, fun r j => (h r j).2⟩⟩)

theorem solid_init (e : Env) (wf : WF e) : Solid e (initState e) := by
  refine ⟨?_, ?_⟩
  · intro r i _
    simp only [initState, Ledger.get_empty]
    apply (availSecs_pos_iff e.G _).mpr
    show (0 : Rat) ≤ (e.G : Rat) - 1 / 1000000
    have : (1 : Int) ≤ e.G := wf.G_pos
    have : (1 : Rat) ≤ (e.G : Rat) := by exact_mod_cast this
    grind
  · intro r j hm
    simp [initState, Marks.get] at hm

theorem solid_loopStart (e : Env) (wf : WF e) : Solid e (loopStart e) :=
  closed_preLoop (solid_closed e) _ (closed_prepare (solid_closed e) _ (solid_init e wf))

def Has (r : Nat) (i : Int) (σ : St) : Prop := (σ.led.get r i).usage ≠ []

theorem Has.of_led {r : Nat} {i : Int} {σ σ' : St} (hl : σ'.led = σ.led) (h : Has r i σ) : Has r i σ' := by
  unfold Has at *; rw [hl]; exact h

theorem has_closed (e : Env) (r : Nat) (i : Int) : Closed e (Has r i) :=
  (closed_of_slots (fun r' i' s _ => r' = r → i' = i → s.usage ≠ [])
    (fun _ _ s _ off _ _ h hr hi => by rw [reserve_usage]; exact h hr hi)
    (fun _ _ s _ t a _ h hr hi hu => h hr hi ((release_usage_nil_iff s t a).mp hu))
    (fun _ _ s _ t _ _ _ _ => by simp [Slot.book])).of_iff
    (fun σ => ⟨fun h r' i' hr hi => by rw [hr, hi]; exact h, fun h => h r i rfl rfl⟩)

/-- a limit that refuses a booking of `ro` at slot `i` (its counter for the period of `i` is at the limit) -/
def Refuses (e : Env) (lid : Nat) (i : Int) (ro : Option Nat) (σ : St) : Prop := limitOk e σ lid i ro = false

theorem limitOk_false_iff (e : Env) (σ : St) (lid : Nat) (i : Int) (ro : Option Nat) :
    limitOk e σ lid i ro = false ↔
      ¬ ((e.limitD lid).res.isSome && (e.limitD lid).res != ro) = true ∧ 0 ≤ e.period (e.limitD lid) i ∧
      (e.limitD lid).value ≤ σ.cnt.get lid (e.period (e.limitD lid) i) := by
  unfold limitOk
  simp only []
  by_cases h1 : ((e.limitD lid).res.isSome && (e.limitD lid).res != ro) = true
  · simp [h1]
  · simp only [h1, Bool.false_eq_true, if_false, not_false_eq_true, true_and]
    by_cases h2 : e.period (e.limitD lid) i < 0
    · simp only [h2, if_true]; constructor
      · intro h; cases h
      · intro h; omega
    · simp only [h2, if_false, decide_eq_false_iff_not, Int.not_lt]
      constructor
      · intro h; exact ⟨by omega, h⟩
      · intro h; exact h.2

/-- the limit `lid` has no room for the whole team: with `c` more bookings in the period of slot `i` it would be exceeded -/
def Tight (e : Env) (lid : Nat) (i : Int) (ro : Option Nat) (c : Int) (σ : St) : Prop :=
  ¬ ((e.limitD lid).res.isSome && (e.limitD lid).res != ro) = true ∧ 0 ≤ e.period (e.limitD lid) i ∧
    (e.limitD lid).value ≤ σ.cnt.get lid (e.period (e.limitD lid) i) + c

/-- counters only grow, so a tight limit stays tight -/
theorem tight_closed (e : Env) (lid : Nat) (i : Int) (ro : Option Nat) (c : Int) : Closed e (Tight e lid i ro c) where
  eq := by
    intro σ σ' _ hc _ h
    unfold Tight at *; rw [hc]; exact h
  reserve := by intro σ r i' off _ _ _ h; exact h
  release := by intro σ r i' t a _ _ _ _ h; exact h
  book := by
    intro σ r i' t _ _ _ _ _ _ _ h
    unfold Tight at *
    refine ⟨h.1, h.2.1, ?_⟩
    rw [bookSlot_eq']
    have h2 : σ.cnt.get lid (e.period (e.limitD lid) i) ≤
        (incAll e (bookLed e σ r i' t) (bookPairs e r t) i').cnt.get lid (e.period (e.limitD lid) i) :=
      incAll_cnt_ge e (bookLed e σ r i' t) (bookPairs e r t) i' lid (e.period (e.limitD lid) i)
    omega

/-- a limit that refuses is one that is tight already -/
theorem refuses_closed (e : Env) (lid : Nat) (i : Int) (ro : Option Nat) : Closed e (Refuses e lid i ro) :=
  (tight_closed e lid i ro 0).of_iff fun σ => by unfold Refuses Tight; rw [limitOk_false_iff, Int.add_zero]

/-- some limit of the resource (own or of a group) or of the task (own or of a container) refuses the booking of `r` by `t` at `i` -/
def Exhausted (e : Env) (σ : St) (t r : Nat) (i : Int) : Prop :=
  (∃ lid ∈ resLimitIds e r, Refuses e lid i none σ) ∨ (∃ lid ∈ taskLimitIds e t, Refuses e lid i (some r) σ)

theorem Exhausted.of_cnt {e : Env} {σ σ' : St} {t r : Nat} {i : Int} (hc : σ'.cnt = σ.cnt) (h : Exhausted e σ t r i) :
    Exhausted e σ' t r i := by
  unfold Exhausted Refuses limitOk at *; rw [hc]; exact h

theorem not_exhausted {e : Env} {σ : St} {t r : Nat} {i : Int} (hrl : resLimitIds e r = []) (htl : taskLimitIds e t = []) :
    ¬ Exhausted e σ t r i := by
  unfold Exhausted
  rw [hrl, htl]
  rintro (⟨_, hm, _⟩ | ⟨_, hm, _⟩) <;> cases hm

end SP
