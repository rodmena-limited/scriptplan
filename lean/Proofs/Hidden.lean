import Model.Hidden
/-!
For `Properties/C12.lean`: how the hidden state can move under any action, program, op or history (`Follows`);
that a program's observations depend on the flags, the mode, the time zone and the configuration only (`Sim`),
and not on the mode once it starts by writing it; that a second `schedule()` on the same project does nothing.
-/
namespace SP.Hidden

/-- the probe is `runProg` followed by the reports (the definition only exposes the leading `setMode 0`) -/
theorem probeProg_eq (t : TextAbs) : probeProg t = if t.lexOk then runProg t ++ reportProg t else [] := by
  unfold probeProg runProg newProg
  cases t.lexOk <;> simp

/-- `h'` can follow `h`: the time zone, the configuration, the cache size and the error counter are as
    they were, the message log has only grown, the cache singleton, once created, is still there -/
structure Follows (h h' : HState) : Prop where
  tz : h'.tz = h.tz
  cfg : h'.cfg = h.cfg
  cacheLen : h'.cacheLen = h.cacheLen
  errors : h'.errors = h.errors
  msgs : ∃ l, h'.msgs = h.msgs ++ l
  cacheInst : h.cacheInst = true → h'.cacheInst = true

theorem Follows.refl (h : HState) : Follows h h := ⟨rfl, rfl, rfl, rfl, ⟨[], (List.append_nil _).symm⟩, id⟩

theorem Follows.trans {h1 h2 h3 : HState} (a : Follows h1 h2) (b : Follows h2 h3) : Follows h1 h3 := by
  obtain ⟨l1, e1⟩ := a.msgs
  obtain ⟨l2, e2⟩ := b.msgs
  exact ⟨b.tz.trans a.tz, b.cfg.trans a.cfg, b.cacheLen.trans a.cacheLen, b.errors.trans a.errors,
    ⟨l1 ++ l2, by rw [e2, e1, List.append_assoc]⟩, b.cacheInst ∘ a.cacheInst⟩

theorem execAct_follows (c : Ctx) (a : Act) : Follows c.h (execAct c a).1.h := by
  cases a with
  | warn m => exact ⟨rfl, rfl, rfl, rfl, ⟨[m], rfl⟩, fun h => h⟩
  | cacheInstance => exact ⟨rfl, rfl, rfl, rfl, ⟨[], (List.append_nil _).symm⟩, fun _ => rfl⟩
  | _ => exact ⟨rfl, rfl, rfl, rfl, ⟨[], (List.append_nil _).symm⟩, fun h => h⟩

theorem execProg_follows (c : Ctx) (p : List Act) : Follows c.h (execProg c p).1.h := by
  induction p generalizing c with
  | nil => exact Follows.refl c.h
  | cons a as ih => exact (execAct_follows c a).trans (ih _)

theorem execProg_cacheInst (c : Ctx) (p : List Act) : c.h.cacheInst = true → (execProg c p).1.h.cacheInst = true :=
  (execProg_follows c p).cacheInst

/-- two contexts agree on everything an action can read -/
def Sim (c1 c2 : Ctx) : Prop :=
  c1.f = c2.f ∧ c1.h.mode = c2.h.mode ∧ c1.h.tz = c2.h.tz ∧ c1.h.cfg = c2.h.cfg

/-- agreement on everything except the mode -/
def Sim0 (c1 c2 : Ctx) : Prop :=
  c1.f = c2.f ∧ c1.h.tz = c2.h.tz ∧ c1.h.cfg = c2.h.cfg

theorem sim_act {c1 c2 : Ctx} (h : Sim c1 c2) (a : Act) :
    Sim (execAct c1 a).1 (execAct c2 a).1 ∧ (execAct c1 a).2 = (execAct c2 a).2 := by
  obtain ⟨hf, hm, ht, hc⟩ := h
  cases a <;> simp [execAct, Sim, hf, hm, ht, hc]

theorem sim_prog {c1 c2 : Ctx} (h : Sim c1 c2) (p : List Act) :
    Sim (execProg c1 p).1 (execProg c2 p).1 ∧ (execProg c1 p).2 = (execProg c2 p).2 := by
  induction p generalizing c1 c2 with
  | nil => exact ⟨h, rfl⟩
  | cons a as ih =>
    have h1 := sim_act h a
    have h2 := ih h1.1
    simp only [execProg]
    refine ⟨h2.1, ?_⟩
    rw [h1.2, h2.2]

/-- a program that starts by writing the mode does not see the mode it was started in -/
theorem sim0_setMode {c1 c2 : Ctx} (h : Sim0 c1 c2) (v : Nat) (p : List Act) :
    (execProg c1 (.setMode v :: p)).2 = (execProg c2 (.setMode v :: p)).2 ∧
    Sim (execProg c1 (.setMode v :: p)).1 (execProg c2 (.setMode v :: p)).1 := by
  have h2 := sim_prog (c1 := (execAct c1 (.setMode v)).1) (c2 := (execAct c2 (.setMode v)).1) ⟨h.1, rfl, h.2⟩ p
  simp only [execProg]
  rw [h2.2]
  exact ⟨rfl, h2.1⟩

/-- the observations of a run are a function of the text, the time-zone variable and the message
    handler's configuration — of nothing else in the process -/
theorem obsRun_congr (w1 w2 : World) (t : TextAbs) (htz : w1.h.tz = w2.h.tz) (hcfg : w1.h.cfg = w2.h.cfg) :
    obsRun w1 t = obsRun w2 t := by
  unfold obsRun probeProg
  cases t.lexOk
  · rfl
  · exact congrArg (·.1) (sim0_setMode (c1 := ⟨w1.h, []⟩) (c2 := ⟨w2.h, []⟩) ⟨rfl, htz, hcfg⟩ 0 _).1

@[simp] theorem put_h (w : World) (k : Option Nat) (p : ProjSt) (h : HState) : (w.put k p h).h = h := by
  cases k <;> rfl

/-- every op moves the hidden state by running some program on it -/
theorem step_h (w : World) (o : Op) : ∃ f p, (step w o).1.h = (execProg ⟨w.h, f⟩ p).1.h := by
  cases o with
  | run t keep =>
    by_cases hl : t.lexOk = true
    · exact ⟨[], runProg t, (congrArg (·.1.h) (if_pos hl : step w (.run t keep) = _)).trans (put_h ..)⟩
    · exact ⟨[], [], congrArg (·.1.h) (if_neg hl : step w (.run t keep) = _)⟩
  | parseOnly t keep =>
    by_cases hl : t.lexOk = true
    · exact ⟨[], parseProg t, (congrArg (·.1.h) (if_pos hl : step w (.parseOnly t keep) = _)).trans (put_h ..)⟩
    · exact ⟨[], [], congrArg (·.1.h) (if_neg hl : step w (.parseOnly t keep) = _)⟩
  | failRun t pt =>
    by_cases hl : t.lexOk = true
    · exact ⟨[], failProg t pt, congrArg (·.1.h) (if_pos hl : step w (.failRun t pt) = _)⟩
    · exact ⟨[], [], congrArg (·.1.h) (if_neg hl : step w (.failRun t pt) = _)⟩
  | schedule s fail =>
    cases hl : w.slots.lookup s with
    | none =>
      refine ⟨[], [], ?_⟩
      simp only [step, hl]
      rfl
    | some p =>
      refine ⟨p.f, schedProg p fail, ?_⟩
      simp only [step, hl, put_h]
      rfl
  | report s =>
    cases hl : w.slots.lookup s with
    | none =>
      refine ⟨[], [], ?_⟩
      simp only [step, hl]
      rfl
    | some p =>
      refine ⟨p.f, reportProg p.t, ?_⟩
      simp only [step, hl, put_h]

theorem step_follows (w : World) (o : Op) : Follows w.h (step w o).1.h := by
  obtain ⟨f, p, e⟩ := step_h w o
  rw [e]
  exact execProg_follows ⟨w.h, f⟩ p

theorem runHist_follows (w : World) (h : List Op) : Follows w.h (runHist w h).h := by
  induction h generalizing w with
  | nil => exact Follows.refl w.h
  | cons o os ih => exact (step_follows w o).trans (ih _)

theorem get_set (f : Flags) (a : String) (v : AFlag) : Flags.get (Flags.set f a v) a = v := by
  unfold Flags.set
  split
  · assumption
  · simp [Flags.get, List.lookup]

theorem set_of_get {f : Flags} {a : String} {v : AFlag} (h : Flags.get f a = v) : Flags.set f a v = f := if_pos h

theorem flagAfterSet_idem : (m : Nat) → (x : AFlag) → flagAfterSet m (flagAfterSet m x) = flagAfterSet m x
  | 0, _ => rfl
  | 1, _ => rfl
  | _ + 2, _ => rfl

theorem attrSet_twice (c : Ctx) (a : String) :
    (execAct (execAct c (.attrSet a)).1 (.attrSet a)).1 = (execAct c (.attrSet a)).1 := by
  simp only [execAct]
  rw [get_set, flagAfterSet_idem, set_of_get (get_set ..)]

theorem attrSet_obs (c : Ctx) (a : String) : (execAct c (.attrSet a)).2.1 = [] := by simp [execAct]

theorem replicate_attrSet (c : Ctx) (a : String) (n : Nat) :
    (execProg c (List.replicate (n + 1) (.attrSet a))).1 = (execAct c (.attrSet a)).1 ∧
    (execProg c (List.replicate (n + 1) (.attrSet a))).2.1 = [] := by
  induction n generalizing c with
  | zero => simp [execProg, execAct]
  | succ k ih =>
    have h := ih (execAct c (.attrSet a)).1
    rw [List.replicate_succ]
    simp only [execProg]
    rw [h.1, h.2, attrSet_twice]
    simp [execAct]

/-- the head of `schedule()` (`p.index()`) executed again in the same mode changes nothing -/
theorem topProg_again (c : Ctx) (t : TextAbs) :
    (execProg (execProg c (topProg t)).1 (topProg t)).1 = (execProg c (topProg t)).1 ∧
    (execProg (execProg c (topProg t)).1 (topProg t)).2.1 = [] := by
  unfold topProg
  cases hn : t.props with
  | zero => simp [execProg]
  | succ n =>
    have h1 := replicate_attrSet c "bsi" n
    have h2 := replicate_attrSet (execProg c (List.replicate (n + 1) (.attrSet "bsi"))).1 "bsi" n
    rw [h2.1, h2.2, h1.1, attrSet_twice]
    simp

theorem loopDone_all (ss : List ScenAbs) (d : List Bool) (k : Nat) :
    loopDone ss d k none = List.replicate ss.length true := by
  induction ss generalizing k with
  | nil => simp [loopDone]
  | cons s ss ih =>
    simp only [loopDone]
    split <;> simp [ih, List.replicate_succ]

/-- after a complete pass nothing is left to schedule -/
theorem done_replicate (n : Nat) :
    (anyDone (List.replicate (n + 1) true) && allDone (n + 1) (List.replicate (n + 1) true)) = true := by
  simp only [anyDone, allDone, List.replicate_succ, List.any_cons, id, Bool.true_or, Bool.true_and, List.all_eq_true,
    List.mem_range]
  intro i hi
  rw [← List.replicate_succ, List.getD_eq_getElem?_getD, List.getElem?_replicate, if_pos hi]
  rfl

/-- `schedule()` on a project with nothing left to schedule returns at once -/
theorem schedApply_finished (h : HState) (p : ProjSt) (fail : Option (Nat × Phase))
    (hf : (anyDone p.done && allDone p.t.scens.length p.done) = true) : schedApply h p fail = ((h, p), [], []) := by
  simp only [schedApply, schedProg, schedDone, schedRuns, hf, if_true, execProg]

theorem execProg_append_nil (c : Ctx) (p : List Act) : execProg c (p ++ []) = execProg c p := by simp

theorem anyDone_nil : anyDone [] = false := rfl

/-- `Project.schedule()` twice in a row on the same project = once (hidden state and project state),
    and the second call reads nothing the output could depend on -/
theorem schedApply_idem (h : HState) (p : ProjSt) :
    (schedApply (schedApply h p none).1.1 (schedApply h p none).1.2 none).1 = (schedApply h p none).1 ∧
    (schedApply (schedApply h p none).1.1 (schedApply h p none).1.2 none).2.1 = [] := by
  obtain ⟨t, f, done, runs⟩ := p
  by_cases hc : (anyDone done && allDone t.scens.length done) = true
  · -- nothing left to schedule: both calls return at once
    have e := schedApply_finished h ⟨t, f, done, runs⟩ none hc
    rw [e]
    exact ⟨congrArg (·.1) e, congrArg (·.2.1) e⟩
  · have hc' : (anyDone done && allDone t.scens.length done) = false := Bool.eq_false_iff.mpr hc
    cases ht : t.hasTasks
    · -- no tasks: only `index()` runs, twice in the same mode
      have h1 := topProg_again ⟨h, f⟩ t
      simp only [schedApply, schedProg, schedDone, schedRuns, hc', ht, Bool.false_eq_true, if_false,
        List.append_nil]
      refine ⟨?_, h1.2⟩
      rw [h1.1]
    · cases hs : t.scens with
      | nil =>
        have h1 := topProg_again ⟨h, f⟩ t
        rw [hs] at hc'
        simp only [schedApply, schedProg, schedDone, schedRuns, hc', ht, hs, loopProg, loopDone, loopRuns,
          Bool.false_eq_true, if_false, if_true, List.append_nil, anyDone_nil, Bool.false_and]
        refine ⟨?_, h1.2⟩
        rw [h1.1]
      | cons s ss =>
        -- the first call completes every scenario, the second returns at once
        rw [hs] at hc'
        have hq : (anyDone (schedApply h ⟨t, f, done, runs⟩ none).1.2.done &&
            allDone t.scens.length (schedApply h ⟨t, f, done, runs⟩ none).1.2.done) = true := by
          simp only [schedApply, schedDone, hc', ht, hs, loopDone_all, Bool.false_eq_true, if_false, if_true]
          exact done_replicate ss.length
        rw [schedApply_finished _ _ none hq]
        exact ⟨rfl, rfl⟩

end SP.Hidden
