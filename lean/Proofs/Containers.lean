import Proofs.Loop
import Proofs.WFCheck
import Proofs.ListLemmas
/-!
C10, dates.  `Tree` (checked by `treeCheck`): children lists and parent pointers agree and parents precede children.
`ContOK`: a scheduled container carries the minimum of its children's starts and the maximum of their ends; `Complete`: a
container is scheduled exactly when all of its children are.  Both are kept by `scheduleTask` followed by the roll-up
(`contLoop_step`); `finishScenario` recomputes the same dates (`SameDates`).  `runScenario_containers` states both for the
final state of every scenario.
-/
namespace SP

/-- children are created after their parents: a child's index is larger than its parent's -/
def Tree (e : Env) : Prop := ∀ c ch, ch ∈ (e.taskD c).children → c < ch

def treeCheck (e : Env) : Bool :=
  (List.range e.tasks.size).all (fun c => (e.taskD c).children.all (fun ch => decide (c < ch)))

theorem treeCheck_sound (e : Env) (h : treeCheck e = true) : Tree e := by
  intro c ch hch
  by_cases hc : c < e.tasks.size
  · unfold treeCheck at h
    simp only [List.all_eq_true, List.mem_range, decide_eq_true_eq] at h
    exact h c hc ch hch
  · rw [taskD_oob e c (by omega)] at hch
    cases hch

theorem childMinStart_congr (σ σ' : St) (cs : List Nat) (h : ∀ ch ∈ cs, (σ'.tst ch).start = (σ.tst ch).start) :
    childMinStart σ' cs = childMinStart σ cs :=
  foldl_congr_of_mem (fun c hc m => by rw [h c hc]) none

theorem childMaxEnd_congr (σ σ' : St) (cs : List Nat) (h : ∀ ch ∈ cs, (σ'.tst ch).stop = (σ.tst ch).stop) :
    childMaxEnd σ' cs = childMaxEnd σ cs :=
  foldl_congr_of_mem (fun c hc m => by rw [h c hc]) none

def ContOK (e : Env) (σ : St) (c : Nat) : Prop :=
  (∀ ch ∈ (e.taskD c).children, (σ.tst ch).scheduled = true) ∧
  (∀ s, childMinStart σ (e.taskD c).children = some s → (σ.tst c).start = some s) ∧
  (∀ s, childMaxEnd σ (e.taskD c).children = some s → (σ.tst c).stop = some s)

/-- every scheduled container summarises its children -/
def ContInv (e : Env) (σ : St) : Prop :=
  ∀ c, (e.taskD c).leaf = false → (σ.tst c).scheduled = true → ContOK e σ c

def SameDates (a b : TSt) : Prop := a.start = b.start ∧ a.stop = b.stop ∧ a.scheduled = b.scheduled

theorem contOK_of_children (e : Env) (σ σ' : St) (c : Nat)
    (hch : ∀ ch ∈ (e.taskD c).children, SameDates (σ'.tst ch) (σ.tst ch))
    (h1 : ∀ ch ∈ (e.taskD c).children, (σ.tst ch).scheduled = true)
    (h2 : ∀ s, childMinStart σ (e.taskD c).children = some s → (σ'.tst c).start = some s)
    (h3 : ∀ s, childMaxEnd σ (e.taskD c).children = some s → (σ'.tst c).stop = some s) : ContOK e σ' c :=
  ⟨fun ch hm => by rw [(hch ch hm).2.2]; exact h1 ch hm,
   fun s hm => h2 s (by rw [← childMinStart_congr σ σ' _ (fun ch hh => (hch ch hh).1)]; exact hm),
   fun s hm => h3 s (by rw [← childMaxEnd_congr σ σ' _ (fun ch hh => (hch ch hh).2.1)]; exact hm)⟩

theorem contInv_of_frame (e : Env) (σ σ' : St) (h : ContInv e σ)
    (hfrozen : ∀ x, (σ.tst x).scheduled = true → SameDates (σ'.tst x) (σ.tst x))
    (hnew : ∀ c, (e.taskD c).leaf = false → (σ'.tst c).scheduled = true → (σ.tst c).scheduled = true) :
    ContInv e σ' := by
  intro c hc hs
  have hs0 := hnew c hc hs
  obtain ⟨h1, h2, h3⟩ := h c hc hs0
  exact contOK_of_children e σ σ' c (fun ch hch => hfrozen ch (h1 ch hch)) h1
    (fun s hm => by rw [(hfrozen c hs0).1]; exact h2 s hm) (fun s hm => by rw [(hfrozen c hs0).2.1]; exact h3 s hm)

theorem rollupT_marks (e : Env) (σ : St) (t : Nat)
    (hc : (e.taskD t).leaf = false) (hns : (σ.tst t).scheduled = false) (hne : (e.taskD t).children.isEmpty = false)
    (hall : (e.taskD t).children.all (fun c => (σ.tst c).scheduled) = true) :
    (rollupT e σ t).scheduled = true ∧
    (∀ v, childMinStart σ (e.taskD t).children = some v → (rollupT e σ t).start = some v) ∧
    (∀ v, childMaxEnd σ (e.taskD t).children = some v → (rollupT e σ t).stop = some v) := by
  unfold rollupT
  simp only [hc, hns, hne, hall, Bool.false_or, Bool.or_self, Bool.not_true, Bool.false_eq_true, if_false]
  refine ⟨trivial, ?_, ?_⟩
  · intro v hv; simp only [hv]; cases childMaxEnd σ (e.taskD t).children <;> rfl
  · intro v hv; simp only [hv]

theorem rollupT_waits (e : Env) (σ : St) (t : Nat)
    (hall : (e.taskD t).children.all (fun c => (σ.tst c).scheduled) = false) :
    rollupT e σ t = σ.tst t := by
  unfold rollupT
  simp only [hall]
  split <;> simp

theorem rollupT_cases (e : Env) (σ : St) (x : Nat) :
    rollupT e σ x = σ.tst x ∨
    ((e.taskD x).leaf = false ∧ (σ.tst x).scheduled = false ∧
     (∀ ch ∈ (e.taskD x).children, (σ.tst ch).scheduled = true) ∧
     (rollupT e σ x).scheduled = true ∧
     (∀ s, childMinStart σ (e.taskD x).children = some s → (rollupT e σ x).start = some s) ∧
     (∀ s, childMaxEnd σ (e.taskD x).children = some s → (rollupT e σ x).stop = some s)) := by
  by_cases h1 : ((e.taskD x).leaf || (σ.tst x).scheduled || (e.taskD x).children.isEmpty) = true
  · left; unfold rollupT; simp only [h1, if_true]
  · simp only [Bool.or_eq_true, not_or, Bool.not_eq_true] at h1
    cases hall : (e.taskD x).children.all (fun c => (σ.tst c).scheduled) with
    | false => exact Or.inl (rollupT_waits e σ x hall)
    | true =>
      obtain ⟨h2, h3, h4⟩ := rollupT_marks e σ x h1.1.1 h1.1.2 h1.2 hall
      exact Or.inr ⟨h1.1.1, h1.1.2, by simpa [List.all_eq_true] using hall, h2, h3, h4⟩

theorem rollup_step_contInv (e : Env) (tr : Tree e) (σ : St) (x : Nat) (h : ContInv e σ) :
    ContInv e (σ.setT x (rollupT e σ x)) := by
  rcases rollupT_cases e σ x with heq | ⟨hnl, hus, hall, hsch, hmin, hmax⟩
  · rw [heq]
    apply contInv_of_frame e σ _ h
    · intro y _; rw [tst_setT_self]; exact ⟨rfl, rfl, rfl⟩
    · intro c _ hs; rw [tst_setT_self] at hs; exact hs
  · intro c hc hs
    by_cases hcx : c = x
    · subst hcx
      -- children have larger indices: their states are untouched
      have hch : ∀ ch ∈ (e.taskD c).children, SameDates ((σ.setT c (rollupT e σ c)).tst ch) (σ.tst ch) := by
        intro ch hm
        have := tr c ch hm
        rw [tst_setT_other σ c _ ch (by omega)]
        exact ⟨rfl, rfl, rfl⟩
      rcases tst_setT_cases σ c (rollupT e σ c) with hv | hv
      · exact contOK_of_children e σ _ c hch hall (fun s hs' => by rw [hv]; exact hmin s hs')
          (fun s hs' => by rw [hv]; exact hmax s hs')
      · rw [hv, hus] at hs
        exact Bool.noConfusion hs
    · have hsame : (σ.setT x (rollupT e σ x)).tst c = σ.tst c := tst_setT_other σ x _ c (Ne.symm hcx)
      rw [hsame] at hs
      obtain ⟨h1, h2, h3⟩ := h c hc hs
      -- `x` is not yet scheduled: it is no child of `c`
      have hch : ∀ ch ∈ (e.taskD c).children, SameDates ((σ.setT x (rollupT e σ x)).tst ch) (σ.tst ch) := by
        intro ch hm
        rw [tst_setT_other σ x _ ch (fun heq => by have := h1 ch hm; rw [← heq, hus] at this; exact Bool.noConfusion this)]
        exact ⟨rfl, rfl, rfl⟩
      exact contOK_of_children e σ _ c hch h1 (fun s hs' => by rw [hsame]; exact h2 s hs')
        (fun s hs' => by rw [hsame]; exact h3 s hs')

theorem updateContainers_contInv (e : Env) (tr : Tree e) (σ : St) (h : ContInv e σ) : ContInv e (updateContainers e σ) := by
  unfold updateContainers
  exact foldl_inv (fun acc => ContInv e acc) _ _ σ h (fun acc x hacc => rollup_step_contInv e tr acc x hacc)

/-- a container all of whose children are scheduled is scheduled -/
def Complete (e : Env) (σ : St) : Prop :=
  ∀ c, (e.taskD c).leaf = false → (e.taskD c).children ≠ [] →
    (∀ ch ∈ (e.taskD c).children, (σ.tst ch).scheduled = true) → (σ.tst c).scheduled = true

theorem scheduleTask_contInv (e : Env) (σ : St) (t0 : Nat) (hlf : (e.taskD t0).leaf = true)
    (hus : (σ.tst t0).scheduled = false) (h : ContInv e σ) : ContInv e (scheduleTask e σ t0).1 := by
  apply contInv_of_frame e σ _ h
  · intro x hx
    have hne : x ≠ t0 := fun heq => by rw [heq, hus] at hx; exact Bool.noConfusion hx
    rw [scheduleTask_other e σ t0 x hne]; exact ⟨rfl, rfl, rfl⟩
  · intro c hc hs
    have hne : c ≠ t0 := fun heq => by rw [heq, hlf] at hc; exact Bool.noConfusion hc
    rw [scheduleTask_other e σ t0 c hne] at hs; exact hs

structure ContLoopInv (e : Env) (σ : St) (tasks : List Nat) : Prop where
  cont : ContInv e σ
  nodup : tasks.Nodup
  pending : ∀ t ∈ tasks, (e.taskD t).leaf = true ∧ (σ.tst t).scheduled = false

theorem contLoop_step (e : Env) (tr : Tree e) (σ : St) (tasks : List Nat) (t0 : Nat) (h : ContLoopInv e σ tasks)
    (hmem : t0 ∈ tasks) : ContLoopInv e (updateContainers e (scheduleTask e σ t0).1) (tasks.erase t0) := by
  obtain ⟨hlf0, hus0⟩ := h.pending t0 hmem
  refine ⟨updateContainers_contInv e tr _ (scheduleTask_contInv e σ t0 hlf0 hus0 h.cont), h.nodup.erase t0, ?_⟩
  intro t ht
  obtain ⟨htm, hne⟩ := mem_erase_ne h.nodup ht
  obtain ⟨hlf, hus⟩ := h.pending t htm
  exact ⟨hlf, by rw [(round_other e σ t0 t hlf hne).1]; exact hus⟩

def CompleteAt (e : Env) (σ : St) (c : Nat) : Prop :=
  (e.taskD c).leaf = false → (e.taskD c).children ≠ [] →
    (∀ ch ∈ (e.taskD c).children, (σ.tst ch).scheduled = true) → (σ.tst c).scheduled = true

/-- processing the containers in descending index order: everything processed so far stays complete -/
theorem rollup_fold_complete (e : Env) (tr : Tree e) :
    ∀ (l : List Nat) (acc : St) (Done : Nat → Prop),
      l.Pairwise (fun a b => b < a) → (∀ y ∈ l, y < acc.ts.size) →
      (∀ x, Done x → CompleteAt e acc x) → (∀ y ∈ l, ∀ x, Done x → y < x) →
      ∀ x, (Done x ∨ x ∈ l) →
        CompleteAt e (l.foldl (fun (acc : St) t => acc.setT t (rollupT e acc t)) acc) x := by
  intro l
  induction l with
  | nil =>
    intro acc Done _ _ hd _ x hx
    rcases hx with hx | hx
    · exact hd x hx
    · cases hx
  | cons y ys ih =>
    intro acc Done hpw hsz hd hlt x hx
    simp only [List.foldl_cons]
    have hpw' := List.pairwise_cons.mp hpw
    apply ih (acc.setT y (rollupT e acc y)) (fun z => Done z ∨ z = y) hpw'.2
    · intro z hz; rw [size_setT]; exact hsz z (List.mem_cons_of_mem _ hz)
    · intro z hz
      rcases hz with hz | hz
      · -- an already processed container: larger index, its children are larger still
        have hyz : y < z := hlt y List.mem_cons_self z hz
        intro hnl hne hall
        have hzs : (acc.setT y (rollupT e acc y)).tst z = acc.tst z := tst_setT_other acc y _ z (by omega)
        rw [hzs]
        apply hd z hz hnl hne
        intro ch hch
        have := tr z ch hch
        rw [← tst_setT_other acc y (rollupT e acc y) ch (by omega)]
        exact hall ch hch
      · -- the container processed in this step
        subst hz
        intro hnl hne hall
        have hb : z < acc.ts.size := hsz z List.mem_cons_self
        rw [tst_setT_same acc z _ hb]
        have hall' : ∀ ch ∈ (e.taskD z).children, (acc.tst ch).scheduled = true := by
          intro ch hch
          have := tr z ch hch
          rw [← tst_setT_other acc z (rollupT e acc z) ch (by omega)]
          exact hall ch hch
        by_cases hs : (acc.tst z).scheduled = true
        · unfold rollupT; simp [hs]
        · exact (rollupT_marks e acc z hnl (by simpa using hs) (by simpa using hne)
            (by simpa [List.all_eq_true] using hall')).1
    · intro z hz w hw
      rcases hw with hw | hw
      · exact hlt z (List.mem_cons_of_mem _ hz) w hw
      · subst hw; exact hpw'.1 z hz
    · rcases hx with hx | hx
      · exact Or.inl (Or.inl hx)
      · rcases List.mem_cons.mp hx with h | h
        · exact Or.inl (Or.inr h)
        · exact Or.inr h

/-- **one children-first pass completes the roll-up**: afterwards every container all of whose children are
    scheduled is scheduled -/
theorem updateContainers_complete (e : Env) (tr : Tree e) (σ : St) (hsz : σ.ts.size = e.tasks.size) :
    Complete e (updateContainers e σ) := by
  intro c hnl hne hall
  by_cases hc : c < e.tasks.size
  · unfold updateContainers at hall ⊢
    have hpw : ((List.range e.tasks.size).reverse).Pairwise (fun a b => b < a) := by
      rw [List.pairwise_reverse]
      exact List.pairwise_lt_range
    exact rollup_fold_complete e tr _ σ (fun _ => False) hpw
      (fun y hy => by rw [hsz]; simpa using hy) (fun x hx => absurd hx id) (fun _ _ x hx => absurd hx id)
      c (Or.inr (by simpa using hc)) hnl hne hall
  · rw [taskD_oob e c (by omega)] at hnl
    exact Bool.noConfusion hnl

/-- with the roll-up complete and the invariant in place, `scheduleContainer` changes neither dates nor the
    scheduled flag of any task -/
theorem containerT_sameDates (e : Env) (σ : St) (x : Nat) (hci : ContInv e σ) (hco : Complete e σ) :
    SameDates (containerT e σ x) (σ.tst x) := by
  unfold containerT
  simp only []
  by_cases h1 : ((σ.tst x).done || (e.taskD x).leaf) = true
  · simp only [h1, if_true]; exact ⟨rfl, rfl, rfl⟩
  · simp only [h1, Bool.false_eq_true, if_false]
    simp only [Bool.or_eq_true, not_or, Bool.not_eq_true] at h1
    by_cases h2 : (e.taskD x).children.any (fun c => !(σ.tst c).scheduled || (σ.tst c).start.isNone || (σ.tst c).stop.isNone) = true
    · simp only [h2, if_true]; exact ⟨rfl, rfl, rfl⟩
    · simp only [h2, Bool.false_eq_true, if_false]
      have hall : ∀ ch ∈ (e.taskD x).children, (σ.tst ch).scheduled = true := by
        intro ch hch
        have : ¬ ((!(σ.tst ch).scheduled || (σ.tst ch).start.isNone || (σ.tst ch).stop.isNone) = true) := by
          intro hb; apply h2; exact List.any_eq_true.mpr ⟨ch, hch, hb⟩
        cases hs : (σ.tst ch).scheduled with
        | true => rfl
        | false => exfalso; apply this; simp [hs]
      by_cases hne : (e.taskD x).children = []
      · -- no children: nothing to summarise
        rw [hne]
        simp [childMinStart, childMaxEnd, SameDates]
      · have hsx : (σ.tst x).scheduled = true := hco x h1.2 hne hall
        obtain ⟨_, hmin, hmax⟩ := hci x h1.2 hsx
        cases hmn : childMinStart σ (e.taskD x).children with
        | none =>
          cases hmx : childMaxEnd σ (e.taskD x).children with
          | none => simp [SameDates]
          | some b =>
            have hb := hmax b hmx
            simp [SameDates, hb]
        | some a =>
          have ha := hmin a hmn
          cases hmx : childMaxEnd σ (e.taskD x).children with
          | none => simp [SameDates, ha]
          | some b =>
            have hb := hmax b hmx
            simp [SameDates, ha, hb, hsx]

theorem SameDates.trans {a b c : TSt} (h1 : SameDates a b) (h2 : SameDates b c) : SameDates a c :=
  ⟨h1.1.trans h2.1, h1.2.1.trans h2.2.1, h1.2.2.trans h2.2.2⟩

theorem contInv_sameDates (e : Env) (σ σ' : St) (h : ∀ y, SameDates (σ'.tst y) (σ.tst y)) (hc : ContInv e σ) :
    ContInv e σ' :=
  contInv_of_frame e σ σ' hc (fun x _ => h x) (fun c _ hs => by rw [← (h c).2.2]; exact hs)

theorem complete_sameDates (e : Env) (σ σ' : St) (h : ∀ y, SameDates (σ'.tst y) (σ.tst y)) (hc : Complete e σ) :
    Complete e σ' := by
  intro c hnl hne hall
  rw [(h c).2.2]
  exact hc c hnl hne (fun ch hch => by rw [← (h ch).2.2]; exact hall ch hch)

theorem finishScenario_sameDates (e : Env) (σ : St) (hci : ContInv e σ) (hco : Complete e σ) :
    ∀ y, SameDates ((finishScenario e σ).tst y) (σ.tst y) := by
  unfold finishScenario
  -- as long as nothing has changed, invariant and completeness hold, so the next container changes nothing either
  apply foldl_inv (fun acc => ∀ y, SameDates (acc.tst y) (σ.tst y)) _ _ σ (fun y => ⟨rfl, rfl, rfl⟩)
  intro acc x h y
  split
  · exact h y
  · unfold scheduleContainer
    rw [tst_setT]
    split
    · rename_i hxy
      rw [← hxy.1]
      exact (containerT_sameDates e acc x (contInv_sameDates e σ acc h hci) (complete_sameDates e σ acc h hco)).trans (h x)
    · exact h y

theorem prepassT_nonleaf (e : Env) (σ : St) (t : Nat) (h : (e.taskD t).leaf = false) : prepassT e σ t = σ.tst t := by
  unfold prepassT; simp [h]

theorem noContSched_beforeRollup (e : Env) (c : Nat) (hc : (e.taskD c).leaf = false) :
    ((propagateAlap e (milestonePrepass e (prepare e (initState e)))).tst c).scheduled = false := by
  have hR : Preorder' (fun t (a b : TSt) => (e.taskD t).leaf = false → a.scheduled = false → b.scheduled = false) :=
    ⟨fun _ _ _ h => h, fun _ _ _ _ h1 h2 hl h => h2 hl (h1 hl h)⟩
  have h1 := prepare_attr e hR
    (fun σ t _ h => by obtain ⟨b, hb⟩ := projAlapT_eq e σ t; rw [hb]; exact h)
    (fun σ0 σ t _ h => by obtain ⟨s, hs⟩ := containerEndT_eq e σ0 σ t; rw [hs]; exact h) (initState e)
  have h2 := milestonePrepass_attr e hR (fun σ t hl h => by rw [prepassT_nonleaf e σ t hl]; exact h) (prepare e (initState e))
  have h3 := propagateAlap_attr e hR (fun _ _ _ h => h) (milestonePrepass e (prepare e (initState e)))
  exact ((h1.trans hR h2).trans hR h3).tst c hc (by rw [initState_tst])

theorem scheduleScenario_cont (e : Env) (tr : Tree e) :
    ContInv e (scheduleScenario e (prepare e (initState e))) ∧ Complete e (scheduleScenario e (prepare e (initState e))) := by
  have hsz1 : (propagateAlap e (milestonePrepass e (prepare e (initState e)))).ts.size = e.tasks.size := by
    rw [propagateAlap_size, milestonePrepass_size, prepare_size, initState_size]
  obtain ⟨rest, -, h⟩ := scenario_induct
    (I := fun tasks _ σ => ContLoopInv e σ tasks ∧ Complete e σ ∧ σ.ts.size = e.tasks.size)
    (fun tasks _ σ t0 h hf => ⟨contLoop_step e tr σ tasks t0 h.1 (List.mem_of_find?_eq_some hf),
      updateContainers_complete e tr _ (by rw [scheduleTask_size]; exact h.2.2),
      by rw [updateContainers_size, scheduleTask_size]; exact h.2.2⟩)
    (fun _ _ _ _ h => ⟨⟨h.1.cont, h.1.nodup, h.1.pending⟩, h.2.1, h.2.2⟩)
    ⟨⟨updateContainers_contInv e tr _ (fun c hc hs => by rw [noContSched_beforeRollup e c hc] at hs; exact Bool.noConfusion hs),
      todoOf_nodup e _, fun t ht => ⟨todoOf_leaf e _ t ht, (todoOf_loopStart e t ht).2.2.1⟩⟩,
     updateContainers_complete e tr _ hsz1, loopStart_size e⟩
  exact ⟨h.1.cont, h.2.1⟩

/-- **C10, dates, end to end**: in the final state of any scenario of a project whose task tree is well-formed
    (children declared after their parents), every scheduled container has all its children scheduled and carries the
    minimum of their starts and the maximum of their ends; and every container all of whose children are scheduled is
    scheduled -/
theorem runScenario_containers (e : Env) (tr : Tree e) :
    ContInv e (runScenario e) ∧ Complete e (runScenario e) := by
  obtain ⟨hci, hco⟩ := scheduleScenario_cont e tr
  have hsd := finishScenario_sameDates e _ hci hco
  exact ⟨contInv_sameDates e _ _ hsd hci, complete_sameDates e _ _ hsd hco⟩

end SP
