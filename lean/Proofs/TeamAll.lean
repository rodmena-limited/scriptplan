import Proofs.Team
import Proofs.Effort
/-!
C03, team clause end to end for one slot: when the gate of a team passes, the members are levelled and then booked one
after the other — and either every member is booked, all for the same seconds, or nobody is.
-/
namespace SP

/-- available seconds as a function of the seconds used -/
def availOf (G : Int) (u : Rat) : Rat :=
  let a := max 0 ((G : Rat) - u)
  if a < 1 / 1000000 then 0 else a

theorem availSecs_eq (G : Int) (s : Slot) : availSecs G s = availOf G s.used := rfl

/-- the seconds used in a member's slot after levelling to `c` and the first-slot offset reservation -/
def teamU (c : Rat) (w : Walk) : Rat :=
  if w.offset > 0 && w.done == 0 then (if c < w.offset then w.offset else c) else c

theorem reserveStep_used (σ : St) (w : Walk) (r : Nat) (c : Rat) (h : (σ.led.get r w.cur).used = c) :
    ((reserveStep σ w r).led.get r w.cur).used = teamU c w := by
  unfold reserveStep teamU
  split
  · simp only [Ledger.get_set, and_self, if_true]
    unfold Slot.reserve
    rw [h]
    split
    · rfl
    · exact h
  · exact h

theorem reserveStep_cnt (σ : St) (w : Walk) (r : Nat) : (reserveStep σ w r).cnt = σ.cnt := by
  unfold reserveStep; split <;> rfl

theorem reserveStep_marks (σ : St) (w : Walk) (r : Nat) : (reserveStep σ w r).marks = σ.marks := by
  unfold reserveStep; split <;> rfl

theorem teamU_ge (c : Rat) (w : Walk) : c ≤ teamU c w := by
  unfold teamU
  split
  · split <;> grind
  · exact Rat.le_refl

theorem limitOk_cnt (e : Env) (σ σ' : St) (lid : Nat) (i : Int) (r : Option Nat) (h : σ'.cnt = σ.cnt) :
    limitOk e σ' lid i r = limitOk e σ lid i r := by
  unfold limitOk; rw [h]

theorem taskLimitsOk_cnt (e : Env) (σ σ' : St) (t : Nat) (i : Int) (r : Nat) (h : σ'.cnt = σ.cnt) :
    taskLimitsOk e σ' t i r = taskLimitsOk e σ t i r := by
  unfold taskLimitsOk
  congr 1
  funext lid
  exact limitOk_cnt e σ σ' lid i (some r) h

theorem available_def (e : Env) (σ : St) (r : Nat) (i : Int) :
    available e σ r i =
      ((e.resD r).leaf && e.onShift r i && decide (availOf e.G (σ.led.get r i).used > 0) &&
       !((σ.marks.get r (e.norm i) || e.leaveMark r (e.norm i)) && decide (availOf e.G (σ.led.get r i).used ≥ (e.G : Rat))) &&
       (resLimitIds e r).all (fun lid => limitOk e σ lid i none)) := rfl

theorem availOf_lt_G (G : Int) (u : Rat) (hu : 0 < u) (ha : 0 < availOf G u) : availOf G u < (G : Rat) := by
  unfold availOf at *
  simp only [] at *
  split at ha
  · grind
  · split
    · grind
    · grind

/-- a member of a passing team gate is still available after levelling and reservation — provided some time is left
    in the levelled slot -/
theorem available_transfer (e : Env) (σg σa : St) (r : Nat) (i : Int) (U : Rat)
    (hgate : available e σg r i = true)
    (hcnt : σa.cnt = σg.cnt) (hmarks : σa.marks.get r (e.norm i) = σg.marks.get r (e.norm i))
    (hua : (σa.led.get r i).used = U) (h0 : 0 ≤ (σg.led.get r i).used) (hle : (σg.led.get r i).used ≤ U)
    (hpos : 0 < availOf e.G U) : available e σa r i = true := by
  rw [available_def] at hgate ⊢
  simp only [Bool.and_eq_true, decide_eq_true_eq, Bool.not_eq_true', List.all_eq_true] at hgate ⊢
  obtain ⟨⟨⟨⟨hleaf, hshift⟩, hag⟩, hflag⟩, hlim⟩ := hgate
  refine ⟨⟨⟨⟨hleaf, hshift⟩, by rw [hua]; exact hpos⟩, ?_⟩, ?_⟩
  · rw [hua, hmarks]
    by_cases hU : 0 < U
    · have := availOf_lt_G e.G U hU hpos
      have hd : decide (availOf e.G U ≥ (e.G : Rat)) = false := by
        simp only [decide_eq_false_iff_not]; grind
      rw [hd]; simp
    · have hU0 : U = 0 := by grind
      have hg0 : (σg.led.get r i).used = 0 := by grind
      rw [hU0]; rw [hg0] at hflag; exact hflag
  · intro lid hl
    rw [limitOk_cnt e σg σa lid i none hcnt]; exact hlim lid hl

theorem levelTeam_cnt (σ : St) (cur : Int) (sel : List Nat) : (levelTeam σ cur sel).cnt = σ.cnt := by
  unfold levelTeam
  exact foldl_inv (fun (acc : St) => acc.cnt = σ.cnt) _ sel σ rfl (fun _ _ h => h)

theorem levelTeam_marks (σ : St) (cur : Int) (sel : List Nat) : (levelTeam σ cur sel).marks = σ.marks := by
  unfold levelTeam
  exact foldl_inv (fun (acc : St) => acc.marks = σ.marks) _ sel σ rfl (fun _ _ h => h)

theorem availOf_le_G (G : Int) (u : Rat) (hu : 0 ≤ u) (hG : (0 : Rat) ≤ (G : Rat)) : availOf G u ≤ (G : Rat) := by
  unfold availOf; grind

theorem teamCommon_nonneg (σ : St) (cur : Int) (sel : List Nat) : 0 ≤ teamCommon σ cur sel := by
  unfold teamCommon
  exact foldMax_ge_init sel (fun r => (σ.led.get r cur).used) 0

theorem foldMax_const (l : List Nat) (f : Nat → Rat) (v : Rat) (h : ∀ r ∈ l, f r = v) (hne : l ≠ []) (m0 : Rat) :
    l.foldl (fun m r => max m (f r)) m0 = max m0 v := by
  induction l generalizing m0 with
  | nil => exact absurd rfl hne
  | cons x xs ih =>
    simp only [List.foldl_cons]
    rw [h x List.mem_cons_self]
    cases xs with
    | nil => rfl
    | cons y ys =>
      rw [ih (fun r hr => h r (List.mem_cons_of_mem _ hr)) (List.cons_ne_nil _ _)]
      grind

theorem isTeam_ne_nil {e : Env} {t : Nat} {sel : List Nat} (h : isTeam e t sel = true) : sel ≠ [] := by
  intro hs
  rw [hs] at h
  simp [isTeam] at h

theorem credit_pos (a η : Rat) (ha : 0 < a) (hη : 0 < η) : 0 < a / 3600 * η :=
  Rat.mul_pos (rate_pos a ha) hη

theorem bookOne_σ (e : Env) (t : Nat) (w : Walk) (a : BookAcc) (r : Nat) :
    (bookOne e t w a r).σ = (bookResource e a.σ t w r).1 := by
  unfold bookOne; simp only []; split <;> rfl

/-- relation between the state the team gate looks at (`σg`: original ledger, provisional counts) and the state the
    members are actually booked in (`σa`: levelled ledger, real counts), for the members `l` still to be booked -/
structure TeamRel (e : Env) (σ0 σg σa : St) (cur : Int) (c : Rat) (t : Nat) (l : List Nat) : Prop where
  cnt : σa.cnt = σg.cnt
  ledg : σg.led = σ0.led
  marksg : σg.marks = σ0.marks
  marksa : ∀ r ∈ l, σa.marks.get r (e.norm cur) = σ0.marks.get r (e.norm cur)
  useda : ∀ r ∈ l, (σa.led.get r cur).used = c
  clean : ∀ r ∈ l, usageOf (σa.led.get r cur).usage t = none
  used0 : ∀ r ∈ l, 0 ≤ (σ0.led.get r cur).used ∧ (σ0.led.get r cur).used ≤ c

/-- the first of the remaining members is as available in the state it is booked in as it was for the gate -/
theorem TeamRel.step {e : Env} {σ0 σg σa : St} {t : Nat} {w : Walk} {c : Rat} {r : Nat} {rs : List Nat}
    (hrel : TeamRel e σ0 σg σa w.cur c t (r :: rs)) (hpos : 0 < availOf e.G (teamU c w)) (hnd : (r :: rs).Nodup)
    (hav : available e σg r w.cur = true) (htl : taskLimitsOk e σg t w.cur r = true) :
    bookResource e σa t w r = bookSlot e (reserveStep σa w r) r w.cur t ∧
    ((reserveStep σa w r).led.get r w.cur).used = teamU c w ∧
    TeamRel e σ0 (countMember e σg t w.cur r) (bookSlot e (reserveStep σa w r) r w.cur t).1 w.cur c t rs := by
  have hr_mem : r ∈ r :: rs := List.mem_cons_self
  have hnd' := List.nodup_cons.mp hnd
  have hU := reserveStep_used σa w r c (hrel.useda r hr_mem)
  have hav' : available e (reserveStep σa w r) r w.cur = true := by
    apply available_transfer e σg (reserveStep σa w r) r w.cur (teamU c w) hav
    · rw [reserveStep_cnt]; exact hrel.cnt
    · rw [reserveStep_marks, hrel.marksa r hr_mem, hrel.marksg]
    · exact hU
    · rw [hrel.ledg]; exact (hrel.used0 r hr_mem).1
    · rw [hrel.ledg]; exact Rat.le_trans (hrel.used0 r hr_mem).2 (teamU_ge c w)
    · exact hpos
  have htl' : taskLimitsOk e (reserveStep σa w r) t w.cur r = true := by
    rw [taskLimitsOk_cnt e σg _ t w.cur r (by rw [reserveStep_cnt]; exact hrel.cnt)]; exact htl
  have hoff : ∀ r' ∈ rs, (bookSlot e (reserveStep σa w r) r w.cur t).1.led.get r' w.cur = σa.led.get r' w.cur := by
    intro r' hr'
    have hne : ¬ (r = r' ∧ w.cur = w.cur) := fun h => hnd'.1 (h.1 ▸ hr')
    rw [bookSlot_frame _ _ _ _ _ _ _ hne, reserveStep_frame _ _ _ _ _ hne]
  refine ⟨by rw [bookResource_eq]; simp [hav', htl'], hU, ?_, ?_, ?_, ?_, ?_, ?_, ?_⟩
  · rw [bookSlot_cnt, countMember_eq, countMember_eq]
    exact incAll_cnt_congr e σg _ _ w.cur (by rw [reserveStep_cnt]; exact hrel.cnt)
  · rw [countMember_led]; exact hrel.ledg
  · rw [countMember_marks]; exact hrel.marksg
  · intro r' hr'
    have hne : r ≠ r' := fun h => hnd'.1 (h ▸ hr')
    rw [bookSlot_marks, Marks.get_set, reserveStep_marks]
    simp only [hne, false_and, if_false]
    exact hrel.marksa r' (List.mem_cons_of_mem _ hr')
  · intro r' hr'; rw [hoff r' hr']; exact hrel.useda r' (List.mem_cons_of_mem _ hr')
  · intro r' hr'; rw [hoff r' hr']; exact hrel.clean r' (List.mem_cons_of_mem _ hr')
  · intro r' hr'; exact hrel.used0 r' (List.mem_cons_of_mem _ hr')

/-- **time left** in the levelled slot: every remaining member is booked, each for the same `availOf G U` seconds; and if
    their efficiencies are positive, the last of them is the last booked, and the credit is the largest of their gains -/
theorem bookAll_team_booked (e : Env) (σ0 : St) (t : Nat) (w : Walk) (c : Rat)
    (hpos : 0 < availOf e.G (teamU c w)) :
    ∀ (l : List Nat) (acc : BookAcc) (σg : St), l.Nodup → TeamRel e σ0 σg acc.σ w.cur c t l →
      teamGateOk e t w.cur σg l = true →
      (∀ r ∈ l, usageOf ((l.foldl (bookOne e t w) acc).σ.led.get r w.cur).usage t = some (availOf e.G (teamU c w))) ∧
      (∀ r', r' ∉ l → (l.foldl (bookOne e t w) acc).σ.led.get r' w.cur = acc.σ.led.get r' w.cur) ∧
      ((∀ r ∈ l, 0 < (e.resD r).eff) → l ≠ [] →
        (l.foldl (bookOne e t w) acc).any = true ∧ (l.foldl (bookOne e t w) acc).last = l.getLast? ∧
        (l.foldl (bookOne e t w) acc).total =
          l.foldl (fun m r => max m (availOf e.G (teamU c w) / 3600 * (e.resD r).eff)) acc.total) := by
  intro l
  induction l with
  | nil => intro acc σg _ _ _; exact ⟨fun r hr => absurd hr List.not_mem_nil, fun _ _ => rfl, fun _ h => absurd rfl h⟩
  | cons r rs ih =>
    intro acc σg hnd hrel hgate
    simp only [teamGateOk, Bool.and_eq_true] at hgate
    obtain ⟨⟨hav, htl⟩, hrest⟩ := hgate
    have hnd' := List.nodup_cons.mp hnd
    obtain ⟨hbook, hU, hrel'⟩ := hrel.step hpos hnd hav htl
    have hσ1 : (bookOne e t w acc r).σ = (bookSlot e (reserveStep acc.σ w r) r w.cur t).1 := by rw [bookOne_σ, hbook]
    obtain ⟨ih1, ih2, ih3⟩ := ih (bookOne e t w acc r) (countMember e σg t w.cur r) hnd'.2 (hσ1 ▸ hrel') hrest
    simp only [List.foldl_cons]
    refine ⟨fun r' hr' => ?_, fun r' hr' => ?_, fun heff _ => ?_⟩
    · rcases List.mem_cons.mp hr' with h | h
      · subst h
        have hclean_r : usageOf ((reserveStep acc.σ w r').led.get r' w.cur).usage t = none := by
          rw [reserveStep_get]; exact hrel.clean r' List.mem_cons_self
        rw [ih2 r' hnd'.1, hσ1, bookSlot_entry, usageOf_append_none _ _ _ hclean_r, availSecs_eq, hU]
      · exact ih1 r' h
    · have hne : ¬ (r = r' ∧ w.cur = w.cur) := fun h => hr' (h.1 ▸ List.mem_cons_self)
      rw [ih2 r' (fun h => hr' (List.mem_cons_of_mem _ h)), hσ1, bookSlot_frame _ _ _ _ _ _ _ hne,
        reserveStep_frame _ _ _ _ _ hne]
    · -- the member's gain is positive, so it is recorded as the last one booked
      have hgain : (bookResource e acc.σ t w r).2 = availOf e.G (teamU c w) / 3600 * (e.resD r).eff := by
        rw [hbook, bookSlot_gain, availSecs_eq, hU]
      have hgpos : availOf e.G (teamU c w) / 3600 * (e.resD r).eff > 0 := credit_pos _ _ hpos (heff r List.mem_cons_self)
      have hone : bookOne e t w acc r =
          { σ := (bookResource e acc.σ t w r).1,
            total := max acc.total (availOf e.G (teamU c w) / 3600 * (e.resD r).eff), last := some r, any := true } := by
        unfold bookOne
        simp only [hgain, hgpos, if_true]
      cases rs with
      | nil => rw [hone]; exact ⟨rfl, rfl, rfl⟩
      | cons r2 rs2 =>
        obtain ⟨h1, h2, h3⟩ := ih3 (fun r' hr' => heff r' (List.mem_cons_of_mem _ hr')) (List.cons_ne_nil _ _)
        refine ⟨h1, by rw [h2]; simp, ?_⟩
        rw [h3, hone]

theorem bookAll_team_all (e : Env) (σ0 : St) (t : Nat) (w : Walk) (c : Rat)
    (hpos : 0 < availOf e.G (teamU c w)) :
    ∀ (l : List Nat) (acc : BookAcc) (σg : St), l.Nodup → TeamRel e σ0 σg acc.σ w.cur c t l →
      teamGateOk e t w.cur σg l = true →
      (∀ r ∈ l, usageOf ((l.foldl (bookOne e t w) acc).σ.led.get r w.cur).usage t = some (availOf e.G (teamU c w))) ∧
      (∀ r', r' ∉ l → (l.foldl (bookOne e t w) acc).σ.led.get r' w.cur = acc.σ.led.get r' w.cur) :=
  fun l acc σg hnd hrel hgate =>
    ⟨(bookAll_team_booked e σ0 t w c hpos l acc σg hnd hrel hgate).1, (bookAll_team_booked e σ0 t w c hpos l acc σg hnd hrel hgate).2.1⟩

theorem available_false_of_no_time (e : Env) (σ : St) (r : Nat) (i : Int)
    (h : ¬ 0 < availOf e.G (σ.led.get r i).used) : available e σ r i = false := by
  rw [available_def]
  have : decide (availOf e.G (σ.led.get r i).used > 0) = false := by simpa using h
  simp [this]

/-- **no time left** in the levelled slot: nobody is booked, and the accumulator of the booking loop stays as it is -/
theorem bookAll_team_idle (e : Env) (t : Nat) (w : Walk) (c : Rat)
    (hz : ¬ 0 < availOf e.G (teamU c w)) :
    ∀ (l : List Nat) (acc : BookAcc), l.Nodup →
      (∀ r ∈ l, (acc.σ.led.get r w.cur).used = c ∧ usageOf (acc.σ.led.get r w.cur).usage t = none) →
      (∀ r ∈ l, usageOf ((l.foldl (bookOne e t w) acc).σ.led.get r w.cur).usage t = none) ∧
      (∀ r', r' ∉ l → (l.foldl (bookOne e t w) acc).σ.led.get r' w.cur = acc.σ.led.get r' w.cur) ∧
      (l.foldl (bookOne e t w) acc).total = acc.total ∧ (l.foldl (bookOne e t w) acc).any = acc.any ∧
      (l.foldl (bookOne e t w) acc).last = acc.last := by
  intro l
  induction l with
  | nil => intro acc _ _; exact ⟨fun r hr => absurd hr List.not_mem_nil, fun _ _ => rfl, rfl, rfl, rfl⟩
  | cons r rs ih =>
    intro acc hnd hpre
    have hnd' := List.nodup_cons.mp hnd
    obtain ⟨hu, hcl⟩ := hpre r List.mem_cons_self
    have hav : available e (reserveStep acc.σ w r) r w.cur = false :=
      available_false_of_no_time e _ r w.cur (by rw [reserveStep_used acc.σ w r c hu]; exact hz)
    have hone : bookOne e t w acc r = { acc with σ := reserveStep acc.σ w r } := by
      unfold bookOne
      rw [bookResource_eq]
      simp [hav]
    have hoff : ∀ r', r ≠ r' → (bookOne e t w acc r).σ.led.get r' w.cur = acc.σ.led.get r' w.cur := by
      intro r' hne
      rw [hone]
      exact reserveStep_frame _ _ _ _ _ (fun h => hne h.1)
    obtain ⟨ih1, ih2, ih3, ih4, ih5⟩ := ih (bookOne e t w acc r) hnd'.2
      (fun r' hr' => by rw [hoff r' (fun h => hnd'.1 (h ▸ hr'))]; exact hpre r' (List.mem_cons_of_mem _ hr'))
    simp only [List.foldl_cons]
    refine ⟨fun r' hr' => ?_, fun r' hr' => ?_, by rw [ih3, hone], by rw [ih4, hone], by rw [ih5, hone]⟩
    · rcases List.mem_cons.mp hr' with h | h
      · subst h
        rw [ih2 r' hnd'.1, hone]
        exact (congrArg (usageOf · t) (reserveStep_get acc.σ w r' r' w.cur)).trans hcl
      · exact ih1 r' h
    · rw [ih2 r' (fun h => hr' (List.mem_cons_of_mem _ h)), hoff r' (fun h => hr' (h ▸ List.mem_cons_self))]

/-- **all or nobody, and the same seconds** (`bookResources` of a team, one slot): if the gate of a team with pairwise
    different members passes in a state satisfying the scheduler invariant in which the task has no entry in the slot
    yet, then after the members have been booked either nobody holds an entry of the task in that slot, or every
    member holds one — all of them for the same number of seconds `a > 0` -/
theorem team_all_or_nobody (e : Env) (wf : WF e) (σ : St) (t : Nat) (w : Walk) (sel : List Nat)
    (hinv : Inv e σ) (hnd : sel.Nodup)
    (hclean : ∀ r ∈ sel, usageOf (σ.led.get r w.cur).usage t = none)
    (hgate : teamGateOk e t w.cur σ sel = true) :
    (∀ r ∈ sel, usageOf ((bookAll e (levelTeam σ w.cur sel) t w sel).σ.led.get r w.cur).usage t = none) ∨
    (∃ a, 0 < a ∧ ∀ r ∈ sel, usageOf ((bookAll e (levelTeam σ w.cur sel) t w sel).σ.led.get r w.cur).usage t = some a) := by
  unfold bookAll
  have hused : ∀ r ∈ sel, ((levelTeam σ w.cur sel).led.get r w.cur).used = teamCommon σ w.cur sel :=
    fun r hr => levelTeam_used σ w.cur sel r hr
  have hcl : ∀ r ∈ sel, usageOf ((levelTeam σ w.cur sel).led.get r w.cur).usage t = none := by
    intro r hr; rw [levelTeam_usage]; exact hclean r hr
  by_cases hpos : 0 < availOf e.G (teamU (teamCommon σ w.cur sel) w)
  · right
    refine ⟨_, hpos, ?_⟩
    have hrel : TeamRel e σ σ (levelTeam σ w.cur sel) w.cur (teamCommon σ w.cur sel) t sel := by
      refine ⟨levelTeam_cnt σ w.cur sel, rfl, rfl, fun r _ => by rw [levelTeam_marks], hused, hcl, fun r hr => ?_⟩
      exact ⟨(hinv.slot r w.cur).used_nonneg, le_teamCommon σ w.cur sel r hr⟩
    exact (bookAll_team_all e σ t w _ hpos sel { σ := levelTeam σ w.cur sel, last := w.last } σ hnd hrel hgate).1
  · left
    exact (bookAll_team_idle e t w _ hpos sel { σ := levelTeam σ w.cur sel, last := w.last } hnd
      (fun r hr => ⟨hused r hr, hcl r hr⟩)).1

/-- **`bookResources` of a team, one slot**: the gate fails or no time is left in the levelled slot, nobody is booked and the
    walk is as before; or every member is booked for the same `a` seconds, the largest gain is credited, and the last booked
    member is the last of the team -/
theorem bookResources_team_cases (e : Env) (wf : WF e) (σ : St) (t : Nat) (w : Walk) (sel : List Nat)
    (hinv : Inv e σ) (ha : (e.taskD t).hasAlloc = true) (hsel : selectedOf e σ t w = sel)
    (hteam : isTeam e t sel = true) (hnd : sel.Nodup)
    (hclean : ∀ r ∈ sel, usageOf (σ.led.get r w.cur).usage t = none) :
    (bookResources e σ t w).2.selected = some sel ∧ (bookResources e σ t w).2.cur = w.cur ∧
    (((∀ r ∈ sel, usageOf ((bookResources e σ t w).1.led.get r w.cur).usage t = none) ∧
        (bookResources e σ t w).2.done = w.done ∧ (bookResources e σ t w).2.last = w.last) ∨
     (∃ a, 0 < a ∧ a ≤ (e.G : Rat) ∧
        (∀ r ∈ sel, usageOf ((bookResources e σ t w).1.led.get r w.cur).usage t = some a) ∧
        (bookResources e σ t w).2.done = w.done + sel.foldl (fun m r => max m (a / 3600 * (e.resD r).eff)) 0 ∧
        (bookResources e σ t w).2.last = sel.getLast?)) := by
  have hne' := isTeam_ne_nil hteam
  have hne : sel.isEmpty = false := by simpa using hne'
  unfold bookResources
  simp only [ha, Bool.not_true, Bool.false_eq_true, if_false, hsel, hne]
  by_cases hg : teamGateOk e t w.cur σ sel = true
  · have hgf : teamGateFails e σ t { w with selected := some sel } sel = false := by
      unfold teamGateFails; simp [hteam, hg]
    have hlev : leveled e σ t w.cur sel = levelTeam σ w.cur sel := by unfold leveled; simp [hteam]
    simp only [hgf, Bool.false_eq_true, if_false, hlev]
    have hused : ∀ r ∈ sel, ((levelTeam σ w.cur sel).led.get r w.cur).used = teamCommon σ w.cur sel :=
      fun r hr => levelTeam_used σ w.cur sel r hr
    have hcl : ∀ r ∈ sel, usageOf ((levelTeam σ w.cur sel).led.get r w.cur).usage t = none := by
      intro r hr; rw [levelTeam_usage]; exact hclean r hr
    by_cases hpos : 0 < availOf e.G (teamU (teamCommon σ w.cur sel) w)
    · have hrel : TeamRel e σ σ (levelTeam σ w.cur sel) w.cur (teamCommon σ w.cur sel) t sel :=
        ⟨levelTeam_cnt σ w.cur sel, rfl, rfl, fun r _ => by rw [levelTeam_marks], hused, hcl,
         fun r hr => ⟨(hinv.slot r w.cur).used_nonneg, le_teamCommon σ w.cur sel r hr⟩⟩
      obtain ⟨hent, -, hacc⟩ := bookAll_team_booked e σ t { w with selected := some sel } _ hpos sel
        { σ := levelTeam σ w.cur sel, last := w.last } σ hnd hrel hg
      obtain ⟨hany, hlast, htot⟩ := hacc (fun r _ => wf.eff_pos r) hne'
      unfold bookAll
      simp only [hany, if_true, markStart_led]
      exact ⟨trivial, trivial, Or.inr ⟨_, hpos,
        availOf_le_G e.G _ (Rat.le_trans (teamCommon_nonneg σ w.cur sel) (teamU_ge _ _)) (G_rat_nonneg wf), hent,
        congrArg (w.done + ·) htot, hlast⟩⟩
    · obtain ⟨hent, -, -, hany, hlast⟩ := bookAll_team_idle e t { w with selected := some sel } _ hpos sel
        { σ := levelTeam σ w.cur sel, last := w.last } hnd (fun r hr => ⟨hused r hr, hcl r hr⟩)
      unfold bookAll
      simp only [hany, Bool.false_eq_true, if_false]
      exact ⟨trivial, trivial, Or.inl ⟨hent, trivial, hlast⟩⟩
  · have hgf : teamGateFails e σ t { w with selected := some sel } sel = true := by
      unfold teamGateFails
      have : teamGateOk e t w.cur σ sel = false := by simpa using hg
      simp [hteam, this]
    simp only [hgf, if_true]
    exact ⟨trivial, trivial, Or.inl ⟨hclean, trivial, trivial⟩⟩

/-- `bookResources` of a team task, one slot: all members or nobody, and the same seconds -/
theorem bookResources_team (e : Env) (wf : WF e) (σ : St) (t : Nat) (w : Walk)
    (hinv : Inv e σ) (ha : (e.taskD t).hasAlloc = true)
    (hteam : isTeam e t (selectedOf e σ t w) = true) (hnd : (selectedOf e σ t w).Nodup)
    (hclean : ∀ r ∈ selectedOf e σ t w, usageOf (σ.led.get r w.cur).usage t = none) :
    (∀ r ∈ selectedOf e σ t w, usageOf ((bookResources e σ t w).1.led.get r w.cur).usage t = none) ∨
    (∃ a, 0 < a ∧ ∀ r ∈ selectedOf e σ t w, usageOf ((bookResources e σ t w).1.led.get r w.cur).usage t = some a) := by
  obtain ⟨-, -, ⟨h, -⟩ | ⟨a, ha0, -, h, -⟩⟩ := bookResources_team_cases e wf σ t w _ hinv ha rfl hteam hnd hclean
  · exact Or.inl h
  · exact Or.inr ⟨a, ha0, h⟩

end SP
