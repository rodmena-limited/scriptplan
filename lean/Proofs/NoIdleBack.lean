import Proofs.VisitsBack
import Proofs.BackGlobal
import Proofs.NoIdleGlobal
import Proofs.ListLemmas
/-!
C08 for whole scenarios, backward (ALAP) mode: in the final ledger, between any slot a backward effort task is booked in and the
last slot before its deadline — its explicit / inherited end, else the earliest `start − gap` of its successors and the project
end, read off the final schedule — no working slot of its resource is without an entry, unless a limit refuses it.
-/
namespace SP

/-- a backward effort task with the single selected leaf resource `r` (one of its allocated or alternative resources) -/
structure EligB (e : Env) (t r : Nat) : Prop where
  el : Elig e t r
  rleaf : (e.resD r).leaf = true
  mem : r ∈ (e.taskD t).alloc ++ (e.taskD t).alt

/-- the deadline: the end the task carried when the loop started (own or inherited), else the one computed from the successors -/
def deadlineG (e : Env) (σ0 σ : St) (t : Nat) : Int :=
  match (σ0.tst t).stop with
  | some x => x
  | none => latestEnd e σ t

def NoIdleBackAt (e : Env) (σ0 σ : St) (t r : Nat) : Prop :=
  ∀ L, usageOf (σ.led.get r L).usage t ≠ none →
    ∀ i, L ≤ i → i ≤ e.idx (deadlineG e σ0 σ t) - 1 → e.onShift r i = true → e.leaveMark r i = false →
      Has r i σ ∨ Exhausted e σ t r i

/-- the dates `latestEnd` reads are settled: the on-start predecessors and the successors are scheduled -/
def Settled (e : Env) (σ : St) (t : Nat) : Prop :=
  (∀ dp ∈ (e.taskD t).allDeps, dp.onstart = true → (σ.tst dp.target).scheduled = true) ∧
  (∀ s ∈ successors e t, (σ.tst s).scheduled = true)

def DoneIdleB (e : Env) (σ0 σ : St) : Prop :=
  ∀ t r, EligB e t r → (σ.tst t).done = true → (σ.tst t).forward = false →
    ((σ0.tst t).stop = none → Settled e σ t) ∧
    (∃ v, (σ.tst t).stop = some v ∧ v ≤ deadlineG e σ0 σ t) ∧ NoIdleBackAt e σ0 σ t r

structure BIdleInv (e : Env) (σ0 σ : St) (tasks : List Nat) : Prop where
  inv : Inv e σ
  solid : Solid e σ
  nodup : tasks.Nodup
  leaf : ∀ t ∈ tasks, (e.taskD t).leaf = true
  inrange : ∀ t ∈ tasks, t < σ.ts.size
  pending : ∀ t ∈ tasks, σ.tst t = σ0.tst t ∧ (σ.tst t).scheduled = false ∧ (σ.tst t).done = false ∧
    (∀ r i, usageOf (σ.led.get r i).usage t = none)
  ok : DoneIdleB e σ0 σ

theorem latestEnd_congr (e : Env) (σ σ' : St) (t : Nat)
    (h1 : ∀ dp ∈ (e.taskD t).allDeps, dp.onstart = true → (σ'.tst dp.target).start = (σ.tst dp.target).start)
    (h2 : ∀ s ∈ successors e t, (σ'.tst s).start = (σ.tst s).start) : latestEnd e σ' t = latestEnd e σ t := by
  unfold latestEnd
  simp only []
  rw [foldl_congr_of_mem (l := successors e t) (fun s hs acc => by rw [h2 s hs])]
  congr 1
  refine foldl_congr_of_mem (fun dp hdp acc => ?_) _
  by_cases ho : dp.onstart = true
  · simp only [ho, if_true]; rw [h1 dp hdp ho]
  · simp only [ho, Bool.false_eq_true, if_false]

theorem deadlineG_congr (e : Env) (σ0 σ σ' : St) (t : Nat)
    (h : (σ0.tst t).stop = none →
      (∀ dp ∈ (e.taskD t).allDeps, dp.onstart = true → (σ'.tst dp.target).start = (σ.tst dp.target).start) ∧
      (∀ s ∈ successors e t, (σ'.tst s).start = (σ.tst s).start)) : deadlineG e σ0 σ' t = deadlineG e σ0 σ t := by
  unfold deadlineG
  cases hs : (σ0.tst t).stop with
  | some x => rfl
  | none => simp only []; exact latestEnd_congr e σ σ' t (h hs).1 (h hs).2

theorem alapReady_settled (e : Env) (σ : St) (t : Nat) (hf : (σ.tst t).forward = false)
    (hns : (σ.tst t).stop = none) (hr : ready e σ t = true) : Settled e σ t := by
  refine ⟨?_, alapReady_successors e σ t hf hns hr⟩
  unfold ready at hr
  simp only [hf, Bool.false_eq_true, if_false] at hr
  unfold alapReady at hr
  simp only [hns, Option.isSome_none, Bool.false_eq_true, if_false] at hr
  intro dp hdp ho
  by_cases hany : (e.taskD t).allDeps.any (fun dp => dp.onstart && !(σ.tst dp.target).scheduled) = true
  · simp only [hany, if_true] at hr; exact Bool.noConfusion hr
  · simp only [List.any_eq_true, not_exists, not_and] at hany
    have := hany dp hdp
    simp only [ho, Bool.true_and, Bool.not_eq_true', Bool.not_eq_false] at this
    exact this

section
variable {e : Env} {σ0 σ σ' : St} {t : Nat}

theorem settled_keep
    (hfix : ∀ x, (σ.tst x).scheduled = true → (σ'.tst x).scheduled = true ∧ (σ'.tst x).start = (σ.tst x).start)
    (hst : (σ0.tst t).stop = none → Settled e σ t) :
    ((σ0.tst t).stop = none → Settled e σ' t) ∧ deadlineG e σ0 σ' t = deadlineG e σ0 σ t :=
  ⟨fun hns => ⟨fun dp hdp ho => (hfix _ ((hst hns).1 dp hdp ho)).1, fun s hs => (hfix _ ((hst hns).2 s hs)).1⟩,
   deadlineG_congr e σ0 σ σ' t fun hns =>
     ⟨fun dp hdp ho => (hfix _ ((hst hns).1 dp hdp ho)).2, fun s hs => (hfix _ ((hst hns).2 s hs)).2⟩⟩

theorem ends_keep
    (hfix : ∀ x, (σ.tst x).scheduled = true → (σ'.tst x).scheduled = true ∧ (σ'.tst x).start = (σ.tst x).start)
    (hstop : (σ'.tst t).stop = (σ.tst t).stop)
    (hst : (σ0.tst t).stop = none → Settled e σ t) (hend : ∃ v, (σ.tst t).stop = some v ∧ v ≤ deadlineG e σ0 σ t) :
    ((σ0.tst t).stop = none → Settled e σ' t) ∧ (∃ v, (σ'.tst t).stop = some v ∧ v ≤ deadlineG e σ0 σ' t) ∧
    deadlineG e σ0 σ' t = deadlineG e σ0 σ t := by
  obtain ⟨h1, h2⟩ := settled_keep hfix hst
  obtain ⟨v, hv, hle⟩ := hend
  exact ⟨h1, ⟨v, by rw [hstop]; exact hv, by rw [h2]; exact hle⟩, h2⟩

/-- the no-idle clause, from the same clause up to a slot `B` in a state `σ` from which `σ'` is reached by steps that
    only add to the books and leave the entries of `t` alone -/
theorem NoIdleBackAt.of_bound {r : Nat} {B : Int} (hcl : ∀ P : St → Prop, Closed e P → P σ → P σ')
    (hse : SameEntries σ σ' t) (hB : e.idx (deadlineG e σ0 σ' t) - 1 = B)
    (h : ∀ L, usageOf (σ.led.get r L).usage t ≠ none →
      ∀ i, L ≤ i → i ≤ B → e.onShift r i = true → e.leaveMark r i = false → Has r i σ ∨ Exhausted e σ t r i) :
    NoIdleBackAt e σ0 σ' t r := by
  intro L hL i hLi hid hon hnl
  rw [hse r L] at hL
  rcases h L hL i hLi (hB ▸ hid) hon hnl with h1 | h1
  · exact Or.inl (hcl _ (has_closed e r i) h1)
  · exact Or.inr (exhausted_closed_step (fun lid ro => hcl _ (refuses_closed e lid i ro)) h1)

end

theorem finishScenario_fix (e : Env) (tr : Tree e) (x : Nat)
    (hx : ((scheduleScenario e (prepare e (initState e))).tst x).scheduled = true) :
    ((runScenario e).tst x).scheduled = true ∧
    ((runScenario e).tst x).start = ((scheduleScenario e (prepare e (initState e))).tst x).start := by
  have hc := scheduleScenario_cont e tr
  have hsd := finishScenario_sameDates e _ hc.1 hc.2 x
  exact ⟨hsd.2.2.trans hx, hsd.1⟩

theorem BIdleInv.warn {e : Env} {σ0 σ : St} {tasks : List Nat} (w : List String) (h : BIdleInv e σ0 σ tasks) :
    BIdleInv e σ0 { σ with warnings := w } tasks :=
  ⟨Inv.of_eq (σ := σ) rfl rfl h.inv, (solid_closed e).eq σ _ rfl rfl rfl h.solid, h.nodup, h.leaf, h.inrange, h.pending,
   h.ok⟩

section
variable {e : Env} {σ0 σ : St} {tasks : List Nat} {t0 : Nat}

theorem bIdle_round_scheduled (h : BIdleInv e σ0 σ tasks) (hmem : t0 ∈ tasks) (x : Nat) (hx : (σ.tst x).scheduled = true) :
    ((updateContainers e (scheduleTask e σ t0).1).tst x).scheduled = true ∧
    ((updateContainers e (scheduleTask e σ t0).1).tst x).start = (σ.tst x).start := by
  rw [round_fixed e σ t0 x (fun heq => by rw [heq, (h.pending t0 hmem).2.1] at hx; exact Bool.noConfusion hx) (Or.inr hx)]
  exact ⟨hx, rfl⟩

theorem bIdle_round_closed (wf : WF e) (h : BIdleInv e σ0 σ tasks) (hmem : t0 ∈ tasks) (P : St → Prop) (hc : Closed e P)
    (hp : P σ) : P (updateContainers e (scheduleTask e σ t0).1) :=
  closed_round hc wf σ t0 h.inv (h.leaf t0 hmem) trivial hp

theorem bIdle_round_self (wf : WF e) (h : BIdleInv e σ0 σ tasks) (hmem : t0 ∈ tasks) (hready : ready e σ t0 = true)
    (hpos : 0 < (e.taskD t0).effort)
    (hd : ((updateContainers e (scheduleTask e σ t0).1).tst t0).done = true)
    (hfw : ((updateContainers e (scheduleTask e σ t0).1).tst t0).forward = false) :
    (σ.tst t0).forward = false ∧ (scheduleTask e σ t0).2 = true ∧
    ((σ0.tst t0).stop = none → Settled e (updateContainers e (scheduleTask e σ t0).1) t0) ∧
    (∃ v, ((updateContainers e (scheduleTask e σ t0).1).tst t0).stop = some v ∧
      v ≤ deadlineG e σ0 (updateContainers e (scheduleTask e σ t0).1) t0) ∧
    deadlineG e σ0 (updateContainers e (scheduleTask e σ t0).1) t0 = deadlineOf e σ t0 := by
  have hlf := h.leaf t0 hmem
  obtain ⟨heq0, -, hnd0, -⟩ := h.pending t0 hmem
  rw [updateContainers_leaf e _ t0 hlf] at hd hfw
  rw [scheduleTask_self_forward] at hfw
  have hok := scheduleTask_done e σ t0 hnd0 hd
  have hdl : deadlineG e σ0 σ t0 = deadlineOf e σ t0 := by
    unfold deadlineG deadlineOf; rw [heq0]; cases (σ0.tst t0).stop <;> rfl
  obtain ⟨hst, hdc⟩ := settled_keep (σ0 := σ0) (bIdle_round_scheduled h hmem)
    (fun hns => alapReady_settled e σ t0 hfw (by rw [heq0]; exact hns) hready)
  obtain ⟨v, hv, hle⟩ := scheduleTask_stop_le e wf σ t0 (h.inrange t0 hmem) hfw hpos hnd0 hok
  exact ⟨hfw, hok, hst, ⟨v, by rw [updateContainers_leaf e _ t0 hlf]; exact hv, by rw [hdc, hdl]; exact hle⟩,
    by rw [hdc, hdl]⟩

/-- the fields of `BIdleInv` that say nothing of finished tasks survive a round -/
theorem bIdleInv_round (wf : WF e) (h : BIdleInv e σ0 σ tasks) (hmem : t0 ∈ tasks)
    (hok : DoneIdleB e σ0 (updateContainers e (scheduleTask e σ t0).1)) :
    BIdleInv e σ0 (updateContainers e (scheduleTask e σ t0).1) (tasks.erase t0) := by
  obtain ⟨hinv', hnd', hlf', hsz, hrest⟩ := round_worklist e wf σ tasks t0 h.inv h.nodup h.leaf hmem
  refine ⟨hinv', bIdle_round_closed wf h hmem _ (solid_closed e) h.solid, hnd', hlf', fun t ht => ?_, fun t ht => ?_, hok⟩
  · rw [hsz]; exact h.inrange t (hrest t ht).1
  · obtain ⟨htm, hts, hse⟩ := hrest t ht
    obtain ⟨h1, h2, h3, h4⟩ := h.pending t htm
    rw [hts]
    exact ⟨h1, h2, h3, fun r i => (hse r i).trans (h4 r i)⟩

theorem bIdleInv_step (wf : WF e) (h : BIdleInv e σ0 σ tasks) (hmem : t0 ∈ tasks) (hready : ready e σ t0 = true) :
    BIdleInv e σ0 (updateContainers e (scheduleTask e σ t0).1) (tasks.erase t0) := by
  refine bIdleInv_round wf h hmem fun t r hel hd hfw => ?_
  by_cases heq : t = t0
  · subst heq
    obtain ⟨hfw0, hok, hst, hend, hdl⟩ := bIdle_round_self wf h hmem hready hel.el.effort hd hfw
    obtain ⟨-, -, hnd0, hclean0⟩ := h.pending t hmem
    exact ⟨hst, hend, NoIdleBackAt.of_bound (fun P hc => closed_updateContainers hc _)
      (SameEntries.of_led (updateContainers_led e _)) (by rw [hdl])
      (scheduleTaskB_no_idle_deadline_sel e wf σ t r h.inv h.solid hel.el.leaf hel.el.alloc hel.el.nomile hel.el.effort
        (hel.el.sel _ _) hfw0 hnd0 (hclean0 r) hel.rleaf hel.mem hok)⟩
  · obtain ⟨hts, hse⟩ := round_other e σ t0 t hel.el.leaf heq
    rw [hts] at hd hfw
    obtain ⟨hst, hend, hidle⟩ := h.ok t r hel hd hfw
    obtain ⟨hst', hend', hdl⟩ := ends_keep (bIdle_round_scheduled h hmem) (by rw [hts]) hst hend
    exact ⟨hst', hend', NoIdleBackAt.of_bound (bIdle_round_closed wf h hmem) hse (by rw [hdl]) hidle⟩

end

theorem bIdleInv_loopStart (e : Env) (wf : WF e) : BIdleInv e (loopStart e) (loopStart e) (todoOf e (loopStart e)) :=
  ⟨loopStart_inv e wf,
   solid_loopStart e wf,
   todoOf_nodup e _, todoOf_leaf e _, fun t ht => (todoOf_loopStart e t ht).2.1,
   fun t ht => ⟨rfl, (todoOf_loopStart e t ht).2.2⟩,
   fun t _ _ hd => absurd hd (by rw [loopStart_done]; exact Bool.noConfusion)⟩

/-- **C08, backward mode, end to end.**  After scheduling any well-formed project: for every completed backward (ALAP) effort
    task `t` with the single selected leaf resource `r`, between any slot `L` in which `t` is booked and the last slot before its
    deadline — the end it carried when the loop started (its own, or inherited from a container), else the earliest
    `start − gap` of its successors and the project end, read off the FINAL schedule — every slot in which `r` is on shift and
    not on leave carries an entry in the final ledger, unless a limit refuses it: no working, unbooked slot within the limits is
    left between the end of the task and its deadline. -/
theorem runScenario_doneIdleB (e : Env) (wf : WF e) (tr : Tree e) : DoneIdleB e (loopStart e) (runScenario e) := by
  obtain ⟨rest, -, h⟩ := scenario_induct (I := fun tasks _ σ => BIdleInv e (loopStart e) σ tasks)
    (fun tasks _ σ t0 h hf => bIdleInv_step wf h (List.mem_of_find?_eq_some hf) (by simpa using List.find?_some hf))
    (fun _ _ _ w h => h.warn w) (bIdleInv_loopStart e wf)
  intro t r hel hd hfw
  rw [runScenario_leafT e t hel.el.leaf] at hd hfw
  obtain ⟨hst, hend, hidle⟩ := h.ok t r hel hd hfw
  obtain ⟨hst', hend', hdl⟩ := ends_keep (finishScenario_fix e tr)
    (by rw [runScenario_leafT e t hel.el.leaf]) hst hend
  exact ⟨hst', hend', NoIdleBackAt.of_bound (fun P hc => closed_finishScenario hc _)
    (SameEntries.of_led (finishScenario_led e _)) (by rw [hdl]) hidle⟩

end SP
