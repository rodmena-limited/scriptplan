import Proofs.Frame
import Proofs.Counted
import Proofs.EffortGlobal
/-!
C03, third clause, for whole scenarios: all the bookings of a task lie on the members of ONE candidate set — the primary
allocation or the alternative one, whichever `_selectBestResources` chose at the task's first slot.
-/
namespace SP

def OnlyOn (t : Nat) (S : List Nat) (σ : St) : Prop := ∀ r i, usageOf (σ.led.get r i).usage t ≠ none → r ∈ S

theorem selectBest_cases (e : Env) (σ : St) (prim alt : List Nat) (effort : Rat) (cur : Int) :
    selectBest e σ prim alt effort cur = [] ∨ selectBest e σ prim alt effort cur = prim ∨
    selectBest e σ prim alt effort cur = alt := by
  unfold selectBest
  split
  · exact Or.inl rfl
  · split
    · exact Or.inr (Or.inl rfl)
    · split
      · exact Or.inr (Or.inr rfl)
      · split
        · exact Or.inr (Or.inr rfl)
        · split
          · exact Or.inr (Or.inr rfl)
          · exact Or.inr (Or.inl rfl)
        · exact Or.inr (Or.inl rfl)

theorem selectBest_noAlt (e : Env) (σ : St) (prim : List Nat) (effort : Rat) (cur : Int) (h : 1 < prim.length) :
    selectBest e σ prim [] effort cur = prim := by
  unfold selectBest
  have : prim.isEmpty = false := by
    cases prim with
    | nil => simp at h
    | cons _ _ => rfl
  simp [this]

theorem bookAll_offsel (e : Env) (σ : St) (t : Nat) (w : Walk) (sel : List Nat) (r' : Nat) (i' : Int) (h : r' ∉ sel) :
    (bookAll e σ t w sel).σ.led.get r' i' = σ.led.get r' i' := by
  unfold bookAll
  have : ∀ (l : List Nat) (a : BookAcc), r' ∉ l → (l.foldl (bookOne e t w) a).σ.led.get r' i' = a.σ.led.get r' i' := by
    intro l
    induction l with
    | nil => intro a _; rfl
    | cons x xs ih =>
      intro a hl
      simp only [List.foldl_cons]
      rw [ih _ (fun hm => hl (List.mem_cons_of_mem _ hm))]
      unfold bookOne; simp only []
      have hne : ¬ (x = r' ∧ w.cur = i') := fun hh => hl (hh.1 ▸ List.mem_cons_self)
      split <;> exact bookResource_frame e a.σ t w x r' i' hne
  exact this sel _ h

theorem OnlyOn.of_led {t : Nat} {S : List Nat} {σ σ' : St} (hl : σ'.led = σ.led) (h : OnlyOn t S σ) : OnlyOn t S σ' := by
  unfold OnlyOn; rw [hl]; exact h

theorem bookResources_onlyOn (e : Env) (σ : St) (t : Nat) (w : Walk) (S : List Nat) (h : OnlyOn t S σ)
    (hsel : (e.taskD t).hasAlloc = true → ∀ r ∈ selectedOf e σ t w, r ∈ S) : OnlyOn t S (bookResources e σ t w).1 := by
  rcases bookResources_led e σ t w with hl | ⟨hal, hl⟩
  · exact h.of_led hl
  · intro r i hu
    by_cases hr : r ∈ selectedOf e σ t w
    · exact hsel hal r hr
    · rw [hl, bookAll_offsel e _ t _ _ r i hr, leveled_same e σ t w.cur _ t r i] at hu
      exact h r i hu

theorem finishTask_onlyOn (e : Env) (σ : St) (t : Nat) (w : Walk) (before : Rat) (fwd : Bool) (S : List Nat)
    (h : OnlyOn t S σ) : OnlyOn t S (finishTask e σ t w before fwd).1 := fun r i =>
  finishTask_slot (P := fun s => usageOf s.usage t ≠ none → r ∈ S) (fun s a hs hu => hs (release_entry s t t a hu))
    e σ w before fwd r i (h r i)

theorem scheduleSlot_onlyOn (e : Env) (σ : St) (t : Nat) (w : Walk) (S : List Nat) (h : OnlyOn t S σ)
    (hsel : (e.taskD t).hasAlloc = true → ∀ r ∈ selectedOf e σ t w, r ∈ S) : OnlyOn t S (scheduleSlot e σ t w).1 := by
  cases hz : ((e.taskD t).milestone || (e.taskD t).effort == 0) with
  | true =>
    obtain ⟨x, hx⟩ := scheduleSlot_dated e σ t w hz
    rw [hx]
    exact h.of_led (setT_led σ t x)
  | false =>
    have hb := bookResources_onlyOn e σ t w S h hsel
    by_cases hd : (bookResources e σ t w).2.done ≥ (e.taskD t).effort
    · exact (finishTask_onlyOn e _ t _ _ _ S hb).of_led (scheduleSlot_fin e σ t w hz hd).2.1
    · rw [scheduleSlot_go e σ t w hz hd]; exact hb

theorem bookResources_selected (e : Env) (σ : St) (t : Nat) (w : Walk) (ha : (e.taskD t).hasAlloc = true) :
    (bookResources e σ t w).2.selected = some (selectedOf e σ t w) := by
  unfold bookResources
  simp only [ha, Bool.not_true, Bool.false_eq_true, if_false]
  split
  · rfl
  · split
    · rfl
    · split <;> rfl

theorem scheduleSlot_selected (e : Env) (σ : St) (t : Nat) (w : Walk) (ha : (e.taskD t).hasAlloc = true)
    (hc : (scheduleSlot e σ t w).2.2 = true) : (scheduleSlot e σ t w).2.1.selected = some (selectedOf e σ t w) := by
  cases hz : ((e.taskD t).milestone || (e.taskD t).effort == 0) with
  | true =>
    obtain ⟨x, hx⟩ := scheduleSlot_dated e σ t w hz
    rw [hx] at hc
    exact Bool.noConfusion hc
  | false =>
    by_cases hd : (bookResources e σ t w).2.done ≥ (e.taskD t).effort
    · rw [(scheduleSlot_fin e σ t w hz hd).1] at hc; exact Bool.noConfusion hc
    · rw [scheduleSlot_go e σ t w hz hd]; exact bookResources_selected e σ t w ha

theorem walkLoop_onlyOn (e : Env) (t : Nat) (fwd : Bool) (fuel : Nat) (σ : St) (w : Walk) (S : List Nat) (h : OnlyOn t S σ)
    (hsel : (e.taskD t).hasAlloc = true → ∀ r ∈ selectedOf e σ t w, r ∈ S) :
    OnlyOn t S (walkLoop e t fwd fuel σ w).1 := by
  induction fuel generalizing σ w with
  | zero => exact h
  | succ f ih =>
    unfold walkLoop
    simp only []
    have hs := scheduleSlot_onlyOn e σ t w S h hsel
    split
    · exact hs
    · rename_i hc
      have hcont : (scheduleSlot e σ t w).2.2 = true := by simpa using hc
      split
      · exact hs
      · apply ih _ _ hs
        intro ha
        have hsl := scheduleSlot_selected e σ t w ha hcont
        have : selectedOf e (scheduleSlot e σ t w).1 t (advance fwd w (scheduleSlot e σ t w).2.1) = selectedOf e σ t w := by
          apply selectedOf_some
          show (scheduleSlot e σ t w).2.1.selected = _
          exact hsl
        rw [this]; exact hsel ha

/-- **one task**: started without entries, the task ends up booked on the members of one candidate set only: nobody, the primary
    allocation, or the alternative one (the selection of the first slot) -/
theorem scheduleTask_oneSet (e : Env) (σ : St) (t : Nat) (hclean : ∀ r i, usageOf (σ.led.get r i).usage t = none) :
    ∃ S, (S = [] ∨ S = (e.taskD t).alloc ∨ S = (e.taskD t).alt) ∧ OnlyOn t S (scheduleTask e σ t).1 := by
  have h0 : ∀ S, OnlyOn t S σ := fun S r i hu => absurd (hclean r i) hu
  rcases scheduleTask_led e σ t with hl | hl
  · exact ⟨[], Or.inl rfl, (h0 []).of_led hl⟩
  · exact ⟨selectedOf e (walkStart e σ t).1 t (walkStart e σ t).2,
      selectBest_cases e (walkStart e σ t).1 _ _ _ (walkStart e σ t).2.cur,
      (walkLoop_onlyOn e t (σ.tst t).forward (e.size.toNat + 3) (walkStart e σ t).1 (walkStart e σ t).2 _ (h0 _)
        (fun _ r hr => hr)).of_led hl⟩

/-- what holds of every task: its entries lie on one candidate set -/
def OneSet (e : Env) (σ : St) : Prop :=
  ∀ t, ∃ S, (S = [] ∨ S = (e.taskD t).alloc ∨ S = (e.taskD t).alt) ∧ OnlyOn t S σ

structure OneSetInv (e : Env) (σ : St) (tasks : List Nat) : Prop where
  nodup : tasks.Nodup
  pending : ∀ t ∈ tasks, ∀ r i, usageOf (σ.led.get r i).usage t = none
  ok : OneSet e σ

theorem oneSet_step (e : Env) (σ : St) (tasks : List Nat) (t0 : Nat) (h : OneSetInv e σ tasks) (hmem : t0 ∈ tasks) :
    OneSetInv e (updateContainers e (scheduleTask e σ t0).1) (tasks.erase t0) := by
  have hround : ∀ t, t ≠ t0 → SameEntries σ (updateContainers e (scheduleTask e σ t0).1) t := fun t hne =>
    (scheduleTask_same e σ t0 t (Ne.symm hne)).trans (SameEntries.of_led (updateContainers_led e _))
  refine ⟨h.nodup.erase t0, fun t ht r i => ?_, fun t => ?_⟩
  · obtain ⟨htm, hne⟩ := mem_erase_ne h.nodup ht
    exact (hround t hne r i).trans (h.pending t htm r i)
  · by_cases heq : t = t0
    · subst heq
      obtain ⟨S, hS, hon⟩ := scheduleTask_oneSet e σ t (h.pending t hmem)
      exact ⟨S, hS, fun r i hu => hon r i (by rw [updateContainers_led] at hu; exact hu)⟩
    · obtain ⟨S, hS, hon⟩ := h.ok t
      exact ⟨S, hS, fun r i hu => hon r i (by rw [hround t heq r i] at hu; exact hu)⟩

/-- **C03, third clause, end to end.**  After scheduling any project, all the bookings of any task lie on the members of one
    candidate set: its primary allocation, or its alternative allocation — never a mixture of the two. -/
theorem runScenario_oneSet (e : Env) : OneSet e (runScenario e) := by
  obtain ⟨rest, -, h⟩ := scenario_induct (I := fun tasks _ σ => OneSetInv e σ tasks)
    (fun tasks _ σ t0 h hf => oneSet_step e σ tasks t0 h (List.mem_of_find?_eq_some hf))
    (fun _ _ _ _ h => ⟨h.nodup, h.pending, h.ok⟩)
    ⟨todoOf_nodup e _, fun t ht => (todoOf_loopStart e t ht).2.2.2.2,
     fun t => ⟨[], Or.inl rfl, fun r i hu => absurd (by rw [loopStart_led]; rfl) hu⟩⟩
  intro t
  obtain ⟨S, hS, hon⟩ := h.ok t
  exact ⟨S, hS, fun r i hu => hon r i (by unfold runScenario at hu; rw [finishScenario_led] at hu; exact hu)⟩

end SP
