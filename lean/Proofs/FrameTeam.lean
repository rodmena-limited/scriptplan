import Proofs.FrameBack
import Proofs.TeamEffort
/-!
C06 for teams (forward mode): a task whose selection is a team of members sharing one efficiency is framed on every
member: the bookings lie between a first and a last booked slot, the reported start lies in the first and the reported
end in the last; and the start is not after the end.  Mirror of `Proofs/FrameWalk` with the team lemmas of
`Proofs/TeamEffort`.

What is special to a team sits in two lemmas about one slot, `book_factsT` (a slot that goes on) and `team_finish` (the
slot that finishes), both free of the direction of the walk; `Proofs/FrameTeamBack` uses them for the backward walk.
-/
namespace SP

/-! ### one slot of a team -/

theorem TAcc.cur_clean {e : Env} {σ : St} {t : Nat} {sel : List Nat} {η : Rat} {fwd : Bool} {w : Walk} {vis : List Int}
    (h : TAcc e σ t sel η fwd w vis) : w.cur ∉ vis ∧ ∀ m ∈ sel, usageOf (σ.led.get m w.cur).usage t = none := by
  have hn : w.cur ∉ vis := cur_not_visited h.before
  exact ⟨hn, fun m hm => h.only m hm _ hn⟩

/-- one slot of a team, seen from one member `r`: what `bookResources` credits is the member's new entry, the entry is
    absent or positive, and a booking makes the last member of the team the last booked one -/
theorem bookResources_team_member (e : Env) (wf : WF e) (σ : St) (t : Nat) (w : Walk) (sel : List Nat) (η : Rat)
    (hinv : Inv e σ) (ha : (e.taskD t).hasAlloc = true) (hsel : selectedOf e σ t w = sel)
    (hteam : isTeam e t sel = true) (hnd : sel.Nodup) (heff : ∀ r ∈ sel, (e.resD r).eff = η) (hη : 0 < η)
    (hclean : ∀ r ∈ sel, usageOf (σ.led.get r w.cur).usage t = none) (r : Nat) (hr : r ∈ sel) :
    (bookResources e σ t w).2.done = w.done + taskSecs ((bookResources e σ t w).1.led.get r w.cur) t / 3600 * η ∧
    (usageOf ((bookResources e σ t w).1.led.get r w.cur).usage t = none ∨
      0 < taskSecs ((bookResources e σ t w).1.led.get r w.cur) t) ∧
    (bookResources e σ t w).2.selected = some sel ∧ (bookResources e σ t w).2.cur = w.cur ∧
    (taskSecs ((bookResources e σ t w).1.led.get r w.cur) t ≠ 0 →
      (bookResources e σ t w).2.last = sel.getLast? ∧
      ∃ a, 0 < a ∧ a ≤ (e.G : Rat) ∧ ∀ m ∈ sel, usageOf ((bookResources e σ t w).1.led.get m w.cur).usage t = some a) := by
  obtain ⟨hselw, hcurw, hcase⟩ := bookResources_team_full e wf σ t w sel η hinv ha hsel hteam hnd heff hη hclean
  rcases hcase with ⟨hnone, hd, _⟩ | ⟨a, ha0, haG, hent, hd, hlast⟩
  · have h0 : taskSecs ((bookResources e σ t w).1.led.get r w.cur) t = 0 := by unfold taskSecs; rw [hnone r hr]; rfl
    refine ⟨by rw [h0, hd]; grind, Or.inl (hnone r hr), hselw, hcurw, fun h => absurd h0 h⟩
  · have h0 : taskSecs ((bookResources e σ t w).1.led.get r w.cur) t = a := by unfold taskSecs; rw [hent r hr]; rfl
    exact ⟨by rw [h0, hd], Or.inr (by rw [h0]; exact ha0), hselw, hcurw, fun _ => ⟨hlast, a, ha0, haG, hent⟩⟩

/-- the members of `l` booked one after the other in the first slot of a task that has not started: a slot that then
    carries the task held at least the start offset before the task's own seconds (shown for the members of `l` that
    were clean, kept for the resources outside `l`) -/
theorem foldl_bookOne_usedBefore (e : Env) (t : Nat) (w : Walk) (ho : w.offset > 0) (hd : w.done = 0) (r : Nat) :
    ∀ (l : List Nat) (acc : BookAcc), l.Nodup → (r ∈ l → usageOf (acc.σ.led.get r w.cur).usage t = none) →
      (r ∉ l → usageOf (acc.σ.led.get r w.cur).usage t ≠ none →
        w.offset ≤ (acc.σ.led.get r w.cur).used - taskSecs (acc.σ.led.get r w.cur) t) →
      usageOf ((l.foldl (bookOne e t w) acc).σ.led.get r w.cur).usage t ≠ none →
      w.offset ≤ ((l.foldl (bookOne e t w) acc).σ.led.get r w.cur).used -
        taskSecs ((l.foldl (bookOne e t w) acc).σ.led.get r w.cur) t := by
  intro l
  induction l with
  | nil => intro acc _ _ hout; exact hout List.not_mem_nil
  | cons x xs ih =>
    intro acc hnd hin hout
    have hσ : (bookOne e t w acc x).σ = (bookResource e acc.σ t w x).1 := by unfold bookOne; simp only []; split <;> rfl
    have hnd' := List.nodup_cons.mp hnd
    rw [List.foldl_cons]
    refine ih _ hnd'.2 (fun hr => ?_) (fun hr => ?_)
    · have hne : ¬ (x = r ∧ w.cur = w.cur) := fun h => hnd'.1 (h.1 ▸ hr)
      rw [hσ, bookResource_frame e _ t w x r w.cur hne]
      exact hin (List.mem_cons_of_mem _ hr)
    · rw [hσ]
      by_cases hx : x = r
      · subst hx
        exact bookResource_usedBefore e acc.σ t w x (hin List.mem_cons_self) ho hd
      · rw [bookResource_frame e _ t w x r w.cur (fun h => hx h.1)]
        exact hout (fun h => (List.mem_cons.mp h).elim (fun h => hx h.symm) hr)

/-- **a booked slot, what lies before the task's seconds**: in the first slot of a task that has not started, a selected
    resource that carries the task after `bookResources` had its slot used at least up to the start offset before the task's
    own seconds — whatever the selection -/
theorem bookResources_usedBefore (e : Env) (σ : St) (t : Nat) (w : Walk) (hnd : (selectedOf e σ t w).Nodup)
    (ho : w.offset > 0) (hd : w.done = 0) (r : Nat) (hr : r ∈ selectedOf e σ t w)
    (hclean : usageOf (σ.led.get r w.cur).usage t = none)
    (hb : usageOf ((bookResources e σ t w).1.led.get r w.cur).usage t ≠ none) :
    w.offset ≤ ((bookResources e σ t w).1.led.get r w.cur).used - taskSecs ((bookResources e σ t w).1.led.get r w.cur) t := by
  rcases bookResources_led e σ t w with h | ⟨-, h⟩
  · rw [h] at hb; exact absurd hclean hb
  · rw [h] at hb ⊢
    refine foldl_bookOne_usedBefore e t { w with selected := some (selectedOf e σ t w) } ho hd r (selectedOf e σ t w)
      { σ := leveled e σ t w.cur (selectedOf e σ t w), last := w.last } hnd (fun _ => ?_) (fun h => absurd hr h) hb
    show usageOf ((leveled e σ t w.cur (selectedOf e σ t w)).led.get r w.cur).usage t = none
    unfold leveled; split
    · rw [levelTeam_usage]; exact hclean
    · exact hclean

theorem bookResources_team_usedBefore (e : Env) (wf : WF e) (σ : St) (t : Nat) (w : Walk) (sel : List Nat)
    (hinv : Inv e σ) (ha : (e.taskD t).hasAlloc = true) (hsel : selectedOf e σ t w = sel)
    (hteam : isTeam e t sel = true) (hnd : sel.Nodup)
    (hclean : ∀ r ∈ sel, usageOf (σ.led.get r w.cur).usage t = none)
    (ho : w.offset > 0) (hd : w.done = 0) (r : Nat) (hr : r ∈ sel)
    (hb : usageOf ((bookResources e σ t w).1.led.get r w.cur).usage t ≠ none) :
    w.offset ≤ ((bookResources e σ t w).1.led.get r w.cur).used - taskSecs ((bookResources e σ t w).1.led.get r w.cur) t := by
  subst hsel
  exact bookResources_usedBefore e σ t w hnd ho hd r hr (hclean r hr) hb

theorem book_factsT (e : Env) (wf : WF e) (σ : St) (t : Nat) (sel : List Nat) (η : Rat) (r : Nat) (hr : r ∈ sel)
    (fwd : Bool) (w : Walk) (vis : List Int)
    (hinv : Inv e σ) (ha : (e.taskD t).hasAlloc = true) (hsel : selectedOf e σ t w = sel)
    (hteam : isTeam e t sel = true) (hnd : sel.Nodup) (heff : ∀ r ∈ sel, (e.resD r).eff = η) (hη : 0 < η)
    (hacc : TAcc e σ t sel η fwd w vis) :
    (∀ i ∈ vis, (bookResources e σ t w).1.led.get r i = σ.led.get r i) ∧
    (usageOf ((bookResources e σ t w).1.led.get r w.cur).usage t = none ∧ (bookResources e σ t w).2.done = w.done ∨
     usageOf ((bookResources e σ t w).1.led.get r w.cur).usage t ≠ none ∧ (bookResources e σ t w).2.done > w.done) := by
  obtain ⟨hcur_notin, hclean⟩ := hacc.cur_clean
  obtain ⟨hdone, hent, -⟩ := bookResources_team_member e wf σ t w sel η hinv ha hsel hteam hnd heff hη hclean r hr
  refine ⟨fun i hi => bookResources_other e σ t w r i (fun hh => hcur_notin (hh ▸ hi)), ?_⟩
  rcases hent with hn | hp
  · have h0 : taskSecs ((bookResources e σ t w).1.led.get r w.cur) t = 0 := by unfold taskSecs; rw [hn]; rfl
    exact Or.inl ⟨hn, by rw [hdone, h0, Rat.div_def, Rat.zero_mul, Rat.zero_mul, Rat.add_zero]⟩
  · refine Or.inr ⟨fun hc => ?_, ?_⟩
    · unfold taskSecs at hp; rw [hc] at hp; exact Rat.lt_irrefl hp
    · have := (Rat.add_lt_add_left (c := w.done)).mpr (credit_pos _ η hp hη)
      rwa [Rat.add_zero, ← hdone] at this

/-- the seconds `n` a finishing task keeps out of the `a` it booked end inside the slot: `u` is what the slot holds, `s`
    the sum of its entries -/
theorem tail_in_slot (u a n s g : Rat) (hn : 0 < n) (hna : n ≤ a) (has : a ≤ s) (hsu : s ≤ u) (hug : u ≤ g) :
    u - a ≤ u - a + n ∧ 0 ≤ u - a + n ∧ u - a + n ≤ g := by
  grind

/-- **the finishing slot of a team, whatever the direction**: every member was booked for the same `a` seconds;
    `finishTask` leaves an entry of the task exactly where `bookResources` left one, and dates the task `roundHalfEven x`
    seconds into the slot — counted from its start going forward, from its end going backward — where `x` lies inside the
    slot and not before what the last member's slot held ahead of the task's seconds -/
theorem team_finish (e : Env) (wf : WF e) (σ : St) (t : Nat) (w : Walk) (sel : List Nat) (η : Rat)
    (hinv : Inv e σ) (hlf : (e.taskD t).leaf = true) (hw : WalkOk e t w)
    (ha : (e.taskD t).hasAlloc = true) (hsel : selectedOf e σ t w = sel)
    (hteam : isTeam e t sel = true) (hnd : sel.Nodup) (heff : ∀ r ∈ sel, (e.resD r).eff = η) (hη : 0 < η)
    (hclean : ∀ r ∈ sel, usageOf (σ.led.get r w.cur).usage t = none)
    (hlt : w.done < (e.taskD t).effort) (hfin : (e.taskD t).effort ≤ (bookResources e σ t w).2.done) :
    ∃ (a : Rat) (rl : Nat) (x : Rat), rl ∈ sel ∧
      (∀ m ∈ sel, usageOf ((bookResources e σ t w).1.led.get m w.cur).usage t = some a) ∧
      ((bookResources e σ t w).1.led.get rl w.cur).used - a ≤ x ∧ 0 ≤ x ∧ x ≤ (e.G : Rat) ∧
      ∀ fwd,
        (∀ m ∈ sel, ∀ i,
          (usageOf ((finishTask e (bookResources e σ t w).1 t (bookResources e σ t w).2 w.done fwd).1.led.get m i).usage t = none ↔
            usageOf ((bookResources e σ t w).1.led.get m i).usage t = none)) ∧
        (finishTask e (bookResources e σ t w).1 t (bookResources e σ t w).2 w.done fwd).2 =
          if fwd then e.time w.cur + roundHalfEven x else e.time w.cur + e.G - roundHalfEven x := by
  obtain ⟨hselw, hcurw, hcase⟩ := bookResources_team_full e wf σ t w sel η hinv ha hsel hteam hnd heff hη hclean
  rcases hcase with ⟨_, hd, _⟩ | ⟨a, ha0, haG, hent, hd, hlastw⟩
  · rw [hd] at hfin; exact absurd hlt (Rat.not_lt.mpr hfin)
  · have hne' := isTeam_ne_nil hteam
    obtain ⟨rl, hrl, hrlmem⟩ := getLast?_mem_of_ne_nil sel hne'
    have hlast : (bookResources e σ t w).2.last = some rl := by rw [hlastw, hrl]
    have heffrl : 0 < (e.resD rl).eff := by rw [heff rl hrlmem]; exact hη
    have hge : (e.taskD t).effort ≤ w.done + a / 3600 * (e.resD rl).eff := by rw [heff rl hrlmem, ← hd]; exact hfin
    have hu : usageOf ((bookResources e σ t w).1.led.get rl (bookResources e σ t w).2.cur).usage t = some a := by
      rw [hcurw]; exact hent rl hrlmem
    have hneed := needSecs_eq e (bookResources e σ t w).1 t (bookResources e σ t w).2 w.done rl a heffrl hlt hge haG hu
    have fe := finish_exact (e.taskD t).effort w.done a (e.resD rl).eff heffrl hlt hge
    simp only [] at fe
    have hs := (bookResources_inv e σ t w wf hinv hlf hw).slot rl w.cur
    have has := mem_le_usageSum _ hs.entries_nonneg (t, a) (usageOf_mem (hent rl hrlmem))
    obtain ⟨hx1, hx2, hx3⟩ := tail_in_slot _ a _ _ (e.G : Rat) fe.1 fe.2.1 has hs.sum_le hs.used_le
    refine ⟨a, rl, ((bookResources e σ t w).1.led.get rl w.cur).used - a +
      ((e.taskD t).effort - w.done) / ((e.resD rl).eff / 3600), hrlmem, hent, hx1, hx2, hx3,
      fun fwd => ⟨fun m hm i => ?_, ?_⟩⟩
    · by_cases hi : i = w.cur
      · subst hi
        have hft := finishTask_team e _ t _ w.done fwd sel rl a hlast hselw hrlmem hnd (by rw [hcurw]; exact hent)
          (by rw [hneed]; exact fe.2.1) m hm
        rw [hcurw] at hft
        rw [hft, hent m hm]; simp
      · rw [finishTask_other e _ t _ w.done fwd m i (by rw [hcurw]; exact hi)]
    · cases fwd
      · rw [finishTask_date_back e _ t _ w.done rl a hlast hu, hcurw, hneed]; rfl
      · rw [finishTask_date_some e _ t _ w.done rl a hlast hu, hcurw, hneed]; rfl

/-- invariant of the forward walk of a team task, seen from the member `r` -/
structure FInvT (e : Env) (σ : St) (t : Nat) (sel : List Nat) (η : Rat) (r : Nat) (w : Walk) (vis : List Int) : Prop where
  acc : TAcc e σ t sel η true w vis
  inb : t < σ.ts.size
  fwd : (σ.tst t).forward = true
  nonneg : 0 ≤ w.done
  fst : Fst e σ t r w.done vis

theorem book_fstT (e : Env) (wf : WF e) (σ : St) (t : Nat) (sel : List Nat) (η : Rat) (r : Nat) (hr : r ∈ sel)
    (w : Walk) (vis : List Int)
    (hinv : Inv e σ) (hlf : (e.taskD t).leaf = true) (hw : WalkOk e t w)
    (ha : (e.taskD t).hasAlloc = true) (hsel : selectedOf e σ t w = sel)
    (hteam : isTeam e t sel = true) (hnd : sel.Nodup) (heff : ∀ r ∈ sel, (e.resD r).eff = η) (hη : 0 < η)
    (hpos : 0 < (e.taskD t).effort) (h : FInvT e σ t sel η r w vis) :
    Fst e (bookResources e σ t w).1 t r (bookResources e σ t w).2.done (w.cur :: vis) ∧
    0 ≤ (bookResources e σ t w).2.done := by
  obtain ⟨hvis, hcase⟩ := book_factsT e wf σ t sel η r hr true w vis hinv ha hsel hteam hnd heff hη h.acc
  obtain ⟨hs1, hs2⟩ := bookResources_start e σ t w h.inb h.fwd hpos
  have hbefore : ∀ i ∈ vis, i < w.cur := fun i hi => by simpa using h.acc.before i hi
  have hnn := h.nonneg
  have hold0 : w.done = 0 → ∀ i ∈ vis, usageOf ((bookResources e σ t w).1.led.get r i).usage t = none :=
    fun hw0 i hi => by rw [hvis i hi]; exact h.fst.1 hw0 i hi
  -- the first booking seen before this slot, if any, is still the first
  have hold : w.done ≠ 0 → ∃ fb, fb ∈ w.cur :: vis ∧ usageOf ((bookResources e σ t w).1.led.get r fb).usage t ≠ none ∧
      (∀ i ∈ w.cur :: vis, usageOf ((bookResources e σ t w).1.led.get r i).usage t ≠ none → fb ≤ i) ∧
      ∃ o : Rat, 0 ≤ o ∧ o ≤ (e.G : Rat) ∧ ((bookResources e σ t w).1.tst t).start = some (markDate e fb o) := by
    intro hw0
    obtain ⟨fb, hfb, hne, hmin, o, ho0, ho1, hst⟩ := h.fst.2 hw0
    refine ⟨fb, List.mem_cons_of_mem _ hfb, by rw [hvis fb hfb]; exact hne, fun i hi hni => ?_, o, ho0, ho1,
      by rw [hs1 hw0]; exact hst⟩
    rcases List.mem_cons.mp hi with hi | hi
    · have := hbefore fb hfb; omega
    · exact hmin i hi (by rw [← hvis i hi]; exact hni)
  rcases hcase with ⟨hn, hd⟩ | ⟨hne, hd⟩
  · -- nothing booked in this slot
    rw [hd]
    refine ⟨⟨fun hw0 i hi => ?_, hold⟩, hnn⟩
    rcases List.mem_cons.mp hi with hi | hi
    · rw [hi]; exact hn
    · exact hold0 hw0 i hi
  · have hpos1 : 0 < (bookResources e σ t w).2.done := Std.lt_of_le_of_lt hnn hd
    have hne1 := Rat.ne_of_gt hpos1
    refine ⟨⟨fun hd0 => absurd hd0 hne1, fun _ => ?_⟩, Rat.le_of_lt hpos1⟩
    by_cases hw0 : w.done = 0
    · -- the first booking happens in this slot
      refine ⟨w.cur, List.mem_cons_self, hne, fun i hi hni => ?_, ?_⟩
      · rcases List.mem_cons.mp hi with hi | hi
        · omega
        · exact absurd (hold0 hw0 i hi) hni
      · rcases hs2 hw0 with ⟨hd0, -⟩ | hs
        · exact absurd hd0 hne1
        · exact ⟨w.offset, hw.off_nonneg, hw.off_le, hs⟩
    · exact hold hw0

theorem scheduleSlot_finvT2 (e : Env) (wf : WF e) (σ : St) (t : Nat) (sel : List Nat) (η : Rat) (r : Nat) (hr : r ∈ sel)
    (w : Walk) (vis : List Int)
    (hinv : Inv e σ) (hlf : (e.taskD t).leaf = true) (hw : WalkOk e t w)
    (ha : (e.taskD t).hasAlloc = true) (hm : (e.taskD t).milestone = false)
    (hsel : selectedOf e σ t w = sel) (hteam : isTeam e t sel = true) (hnd : sel.Nodup)
    (heff : ∀ r ∈ sel, (e.resD r).eff = η) (hη : 0 < η)
    (hlt : w.done < (e.taskD t).effort) (hpos : 0 < (e.taskD t).effort)
    (h : FInvT e σ t sel η r w vis) :
    ((scheduleSlot e σ t w).2.2 = true →
        FInvT e (scheduleSlot e σ t w).1 t sel η r (advance true w (scheduleSlot e σ t w).2.1) (w.cur :: vis)) ∧
    ((scheduleSlot e σ t w).2.2 = false → Framed e (scheduleSlot e σ t w).1 t r ∧ Ordered (scheduleSlot e σ t w).1 t) := by
  have hsa := scheduleSlot_tacc e wf σ t sel η true w vis hinv ha hm hsel hteam hnd heff hη hlt hpos h.acc
  obtain ⟨hfst, hnn1⟩ := book_fstT e wf σ t sel η r hr w vis hinv hlf hw ha hsel hteam hnd heff hη hpos h
  have hfr := bookResources_frame e σ t w
  have hbefore : ∀ i ∈ vis, i < w.cur := fun i hi => by simpa using h.acc.before i hi
  obtain ⟨hcur_notin, hclean⟩ := h.acc.cur_clean
  constructor
  · intro hc
    obtain ⟨hacc', -, -⟩ := hsa.1 hc
    obtain ⟨hs1, hs2⟩ := scheduleSlot_effort_true e σ t w hm hpos hc
    rw [hs1, hs2] at hacc' ⊢
    exact ⟨hacc', by rw [hfr.2.2.2.2]; exact h.inb, by rw [hfr.2.2.2.1]; exact h.fwd, hnn1, hfst⟩
  · intro hc
    obtain ⟨hfin, -, hled, htst⟩ := scheduleSlot_effort_false e σ t w hm hpos h.inb hc
    obtain ⟨a, rl, x, hrl, hent, hxu, hx0, hxG, hF⟩ :=
      team_finish e wf σ t w sel η hinv hlf hw ha hsel hteam hnd heff hη hclean hlt hfin
    obtain ⟨hiff, hdate⟩ := hF true
    rw [h.fwd] at hled htst
    rw [if_pos rfl] at htst hdate
    have hstop' : ((scheduleSlot e σ t w).1.tst t).stop = some (e.time w.cur + roundHalfEven x) := by rw [htst, hdate]
    have hent' : ∀ i, (usageOf ((scheduleSlot e σ t w).1.led.get r i).usage t = none ↔
        usageOf ((bookResources e σ t w).1.led.get r i).usage t = none) := fun i => by rw [hled]; exact hiff r hr i
    have hne1 : (bookResources e σ t w).2.done ≠ 0 := fun h0 => by
      rw [h0] at hfin; exact absurd hpos (Rat.not_lt.mpr hfin)
    obtain ⟨fb, hfb, hfbne, hmin, o, ho0, ho1, hst⟩ :=
      (Fst.transfer (σ' := (scheduleSlot e σ t w).1) (fun i _ => hent' i) (by rw [htst]) hfst).2 hne1
    have hle : ∀ i ∈ w.cur :: vis, i ≤ w.cur := fun i hi => by
      rcases List.mem_cons.mp hi with hh | hh
      · exact Int.le_of_eq hh
      · exact Int.le_of_lt (hbefore i hh)
    -- the end lies `roundHalfEven x` seconds into the finishing slot, `0 ≤ x ≤ G`
    have hb1 := roundHalfEven_nonneg _ hx0
    have hb2 := roundHalfEven_mono_int _ e.G hxG
    refine ⟨⟨fb, w.cur, hle fb hfb, hfbne, ?_, ?_, ⟨_, hst, markDate_in_slot e fb o ho0 ho1⟩, ⟨_, hstop', ?_⟩⟩,
      ⟨_, _, hst, hstop', ?_⟩⟩
    · intro hc2; have hc3 := (hent' w.cur).mp hc2; rw [hent r hr] at hc3; cases hc3
    · intro i hi
      have hin : i ∈ w.cur :: vis := Classical.byContradiction fun hmem => hi ((hsa.2 hc).2.1 r hr i hmem)
      exact ⟨hmin i hin hi, hle i hin⟩
    · rw [time_succ]; exact ⟨Int.le_add_of_nonneg_right hb1, Int.add_le_add_left hb2 _⟩
    · by_cases hlt2 : fb < w.cur
      · -- the first booking lies in an earlier slot
        have h3 := (markDate_in_slot e fb o ho0 ho1).2
        have h4 : e.time (fb + 1) ≤ e.time w.cur := time_mono e wf.G_pos _ _ (Int.add_one_le_of_lt hlt2)
        exact Int.le_trans h3 (Int.le_trans h4 (Int.le_add_of_nonneg_right hb1))
      · -- the task begins and finishes in this slot: nothing was credited before it
        have hw0 : w.done = 0 := by
          apply Classical.byContradiction
          intro hne0
          obtain ⟨fb0, hfb0, hne0', -⟩ := h.fst.2 hne0
          have := hmin fb0 (List.mem_cons_of_mem _ hfb0) (fun hcx => hne0' (by
            rw [← bookResources_other e σ t w r fb0 (fun hh => hcur_notin (hh ▸ hfb0))]; exact (hent' fb0).mp hcx))
          exact hlt2 (Int.lt_of_le_of_lt this (hbefore fb0 hfb0))
        have hstart2 : ((bookResources e σ t w).1.tst t).start = some (markDate e w.cur w.offset) := by
          rcases (bookResources_start e σ t w h.inb h.fwd hpos).2 hw0 with ⟨hd0, -⟩ | hs3
          · exact absurd hd0 hne1
          · exact hs3
        rw [htst, hstart2, Option.some.injEq] at hst
        rw [← hst]
        unfold markDate
        by_cases hopos : w.offset > 0
        · -- the slot is used up to the offset before the task's own seconds begin
          rw [if_pos hopos]
          have hub := bookResources_team_usedBefore e wf σ t w sel hinv ha hsel hteam hnd hclean hopos hw0 rl hrl
            (by rw [hent rl hrl]; simp)
          have htsl : taskSecs ((bookResources e σ t w).1.led.get rl w.cur) t = a := by
            unfold taskSecs; rw [hent rl hrl]; rfl
          rw [htsl] at hub
          have hfl : w.offset.floor ≤ x.floor := Rat.floor_monotone (Rat.le_trans hub hxu)
          exact Int.add_le_add_left (Int.le_trans hfl (roundHalfEven_bounds x).1) _
        · rw [if_neg hopos]
          exact Int.add_le_add_left hb1 _

theorem scheduleSlot_finvT (e : Env) (wf : WF e) (σ : St) (t : Nat) (sel : List Nat) (η : Rat) (r : Nat) (hr : r ∈ sel)
    (w : Walk) (vis : List Int)
    (hinv : Inv e σ) (hlf : (e.taskD t).leaf = true) (hw : WalkOk e t w)
    (ha : (e.taskD t).hasAlloc = true) (hm : (e.taskD t).milestone = false)
    (hsel : selectedOf e σ t w = sel) (hteam : isTeam e t sel = true) (hnd : sel.Nodup)
    (heff : ∀ r ∈ sel, (e.resD r).eff = η) (hη : 0 < η)
    (hlt : w.done < (e.taskD t).effort) (hpos : 0 < (e.taskD t).effort)
    (h : FInvT e σ t sel η r w vis) :
    ((scheduleSlot e σ t w).2.2 = true →
        FInvT e (scheduleSlot e σ t w).1 t sel η r (advance true w (scheduleSlot e σ t w).2.1) (w.cur :: vis)) ∧
    ((scheduleSlot e σ t w).2.2 = false → Framed e (scheduleSlot e σ t w).1 t r) :=
  ⟨(scheduleSlot_finvT2 e wf σ t sel η r hr w vis hinv hlf hw ha hm hsel hteam hnd heff hη hlt hpos h).1,
   fun hc => ((scheduleSlot_finvT2 e wf σ t sel η r hr w vis hinv hlf hw ha hm hsel hteam hnd heff hη hlt hpos h).2 hc).1⟩

theorem walkLoop_framedT2 (e : Env) (wf : WF e) (t : Nat) (sel : List Nat) (η : Rat) (r : Nat) (hr : r ∈ sel)
    (fuel : Nat) (σ : St) (w : Walk) (vis : List Int)
    (hinv : Inv e σ) (hlf : (e.taskD t).leaf = true) (hw : WalkOk e t w)
    (ha : (e.taskD t).hasAlloc = true) (hm : (e.taskD t).milestone = false)
    (hsel : selectedOf e σ t w = sel) (hteam : isTeam e t sel = true) (hnd : sel.Nodup)
    (heff : ∀ r ∈ sel, (e.resD r).eff = η) (hη : 0 < η)
    (hlt : w.done < (e.taskD t).effort) (hpos : 0 < (e.taskD t).effort)
    (h : FInvT e σ t sel η r w vis) (hok : (walkLoop e t true fuel σ w).2.2 = true) :
    Framed e (walkLoop e t true fuel σ w).1 t r ∧ Ordered (walkLoop e t true fuel σ w).1 t := by
  obtain ⟨σl, wl, visl, ⟨hI, hsel', hlt'⟩, hinvl, hwl, hcl, h1, -⟩ := walkLoop_last
    (I := fun σ w vis => FInvT e σ t sel η r w vis ∧ selectedOf e σ t w = sel ∧ w.done < (e.taskD t).effort) wf hlf
    (fun σ w vis hinv hw h hc _ _ => by
      obtain ⟨-, h2, h3⟩ :=
        (scheduleSlot_tacc e wf σ t sel η true w vis hinv ha hm h.2.1 hteam hnd heff hη h.2.2 hpos h.1.acc).1 hc
      exact ⟨(scheduleSlot_finvT2 e wf σ t sel η r hr w vis hinv hlf hw ha hm h.2.1 hteam hnd heff hη h.2.2 hpos h.1).1 hc,
        selectedOf_some e _ t _ sel h2, h3⟩)
    fuel σ w vis hinv hw ⟨h, hsel, hlt⟩ hok
  rw [h1]
  exact (scheduleSlot_finvT2 e wf σl t sel η r hr wl visl hinvl hlf hwl ha hm hsel' hteam hnd heff hη hlt' hpos hI).2 hcl

theorem walkLoop_framedT (e : Env) (wf : WF e) (t : Nat) (sel : List Nat) (η : Rat) (r : Nat) (hr : r ∈ sel)
    (fuel : Nat) (σ : St) (w : Walk) (vis : List Int)
    (hinv : Inv e σ) (hlf : (e.taskD t).leaf = true) (hw : WalkOk e t w)
    (ha : (e.taskD t).hasAlloc = true) (hm : (e.taskD t).milestone = false)
    (hsel : selectedOf e σ t w = sel) (hteam : isTeam e t sel = true) (hnd : sel.Nodup)
    (heff : ∀ r ∈ sel, (e.resD r).eff = η) (hη : 0 < η)
    (hlt : w.done < (e.taskD t).effort) (hpos : 0 < (e.taskD t).effort)
    (h : FInvT e σ t sel η r w vis) (hok : (walkLoop e t true fuel σ w).2.2 = true) :
    Framed e (walkLoop e t true fuel σ w).1 t r :=
  (walkLoop_framedT2 e wf t sel η r hr fuel σ w vis hinv hlf hw ha hm hsel hteam hnd heff hη hlt hpos h hok).1

theorem walkStart_tst (e : Env) (σ : St) (t : Nat) (hb : t < σ.ts.size) :
    t < (walkStart e σ t).1.ts.size ∧ ((walkStart e σ t).1.tst t).forward = (σ.tst t).forward :=
  ⟨by unfold walkStart; rw [size_setT]; exact hb,
   by unfold walkStart; rw [tst_setT_same _ _ _ hb, preStartT_forward]⟩

/-- one forward team task: framed on every member, and start ≤ end -/
theorem scheduleTask_framedT2 (e : Env) (wf : WF e) (σ : St) (t : Nat) (sel : List Nat) (η : Rat) (r : Nat) (hr : r ∈ sel)
    (hinv : Inv e σ) (hel : TeamElig e t sel η) (hb : t < σ.ts.size) (hf : (σ.tst t).forward = true)
    (hnd : (σ.tst t).done = false) (hclean : ∀ m ∈ sel, ∀ i, usageOf (σ.led.get m i).usage t = none)
    (hok : (scheduleTask e σ t).2 = true) : Framed e (scheduleTask e σ t).1 t r ∧ Ordered (scheduleTask e σ t).1 t := by
  obtain ⟨-, hfin, heq⟩ := scheduleTask_ok e wf σ t hnd hok
  obtain ⟨hs0, hacc⟩ := team_walkStart e σ t sel η hel hclean true
  obtain ⟨hsz0, hfw0⟩ := walkStart_tst e σ t hb
  rw [hf] at hfin heq hfw0
  obtain ⟨hfr, s, v, hs, hv, hsv⟩ := walkLoop_framedT2 e wf t sel η r hr _ (walkStart e σ t).1 (walkStart e σ t).2 [] (inv_setT _ _ hinv) hel.leaf
    (walkStart_walkOk e wf σ t) hel.alloc hel.nomile hs0 hel.isTeam hel.nodup hel.eff hel.effpos hel.effort hel.effort
    ⟨hacc, hsz0, hfw0, Rat.le_refl, fun _ i hi => absurd hi List.not_mem_nil, fun hne => absurd rfl hne⟩ hfin
  have hsz := hsz0
  rw [← (walkLoop_frame e t true (e.size.toNat + 3) (walkStart e σ t).1 (walkStart e σ t).2).2.2.2.2] at hsz
  rw [heq]
  exact finalT_framed e _ t r _ _ hsz hel.effort hfr ⟨s, v, hs, hv, hsv⟩

/-- **one forward team task, framing**: a successful `scheduleTask` of a forward team task, started with nothing of the
    task on its members, leaves it framed on every member -/
theorem scheduleTask_framedT (e : Env) (wf : WF e) (σ : St) (t : Nat) (sel : List Nat) (η : Rat) (r : Nat) (hr : r ∈ sel)
    (hinv : Inv e σ) (hel : TeamElig e t sel η) (hb : t < σ.ts.size) (hf : (σ.tst t).forward = true)
    (hnd : (σ.tst t).done = false) (hclean : ∀ m ∈ sel, ∀ i, usageOf (σ.led.get m i).usage t = none)
    (hok : (scheduleTask e σ t).2 = true) : Framed e (scheduleTask e σ t).1 t r :=
  (scheduleTask_framedT2 e wf σ t sel η r hr hinv hel hb hf hnd hclean hok).1

/-- every completed forward team task is framed on every member -/
def DoneFramedT (e : Env) (σ : St) : Prop :=
  ∀ t sel η r, TeamElig e t sel η → r ∈ sel → (σ.tst t).done = true → (σ.tst t).forward = true → Framed e σ t r

structure FrInvT (e : Env) (σ : St) (tasks : List Nat) : Prop where
  inv : Inv e σ
  nodup : tasks.Nodup
  leaf : ∀ t ∈ tasks, (e.taskD t).leaf = true
  inrange : ∀ t ∈ tasks, t < σ.ts.size
  pending : ∀ t ∈ tasks, (σ.tst t).done = false ∧ ∀ r i, usageOf (σ.led.get r i).usage t = none
  ok : DoneFramedT e σ

end SP
