import Model.Cli
import Proofs.Cli
import Proofs.CliClean
/-!
N processes on one file system: definitions (`solo`, `Setup`, `Inv`, `init`) and the helper lemmas
behind C20's non-interference theorems (`inv_step`, `inv_exec`: induction on the interleaving;
`other_step_invisible`, `exec_unowned`: frames).
-/
namespace SP.Cli
variable {B R : Type}

/-- process `i` running alone for `n` steps from the common initial file system -/
def solo (env : Env B R) (v : Variant) (cfg : Nat → Config B) (fs0 : FS B R) (i n : Nat) : Local B R × FS B R :=
  iter env v (cfg i) n ({}, fs0)

/-- the processes of one experiment: process `i` is called `i` by the OS (its temp names are `tmp i _`),
    writes its report to stdout, and reads a user's file -/
structure Setup (cfg : Nat → Config B) : Prop where
  pid : ∀ i, (cfg i).pid = i
  out : ∀ i, (cfg i).out = none
  inp : ∀ i, ∃ n, (cfg i).inPath = .user n

/-- invariant of an interleaving: every process is where it would be alone after the same number of
    its own steps, and the shared file system looks to it exactly as its private one would -/
def Inv (env : Env B R) (v : Variant) (cfg : Nat → Config B) (fs0 : FS B R) (g : Global B R) (k : Nat → Nat) : Prop :=
  ∀ i, g.locals i = (solo env v cfg fs0 i (k i)).1 ∧ Agree (cfg i) g.fs (solo env v cfg fs0 i (k i)).2

theorem inv_step (env : Env B R) (v : Variant) (cfg : Nat → Config B) (fs0 : FS B R) (hs : Setup cfg)
    (hfp : ∀ i b, Footprint env v i b (cfg i).rid (cfg i).fmt) (g : Global B R) (k : Nat → Nat)
    (h : Inv env v cfg fs0 g k) (a : Nat) :
    Inv env v cfg fs0 (gstep env v cfg g a) (fun i => if i = a then k i + 1 else k i) := by
  intro i
  by_cases hia : i = a
  · subst hia
    obtain ⟨hl, hag⟩ := h i
    have hc := step_congr env v (cfg i) (g.locals i) (hs.out i) hag
    have hsolo : solo env v cfg fs0 i (k i + 1) = step env v (cfg i) (g.locals i, (solo env v cfg fs0 i (k i)).2) := by
      simp only [solo, iter_succ]
      rw [hl]
      rfl
    simp only [gstep, if_true]
    rw [hsolo]
    exact ⟨hc.1, hc.2⟩
  · obtain ⟨hl, hag⟩ := h i
    simp only [gstep, hia, if_false]
    refine ⟨hl, ?_⟩
    intro p hp
    have hown : owns (cfg a).pid p = false := by
      rw [hs.pid a]
      rcases hp with hp | hp
      · rw [hs.pid i] at hp
        cases p <;> simp_all [owns]
        all_goals (intro e; exact hia e.symm)
      · obtain ⟨n, hn⟩ := hs.inp i
        rw [hp, hn]; rfl
    have hfr := step_frame env v (cfg a) (g.locals a) g.fs (hs.out a)
      (fun b => by rw [hs.pid a]; exact hfp a b) hown
    rw [hfr]
    exact hag p hp

theorem inv_exec (env : Env B R) (v : Variant) (cfg : Nat → Config B) (fs0 : FS B R) (hs : Setup cfg)
    (hfp : ∀ i b, Footprint env v i b (cfg i).rid (cfg i).fmt) (σ : List Nat) :
    ∀ (g : Global B R) (k : Nat → Nat), Inv env v cfg fs0 g k →
      Inv env v cfg fs0 (exec env v cfg g σ) (fun i => k i + σ.count i) := by
  induction σ with
  | nil => intro g k h; simpa [exec] using h
  | cons a σ ih =>
    intro g k h
    have h1 := inv_step env v cfg fs0 hs hfp g k h a
    have h2 := ih _ _ h1
    simp only [exec, List.foldl_cons] at h2 ⊢
    intro i
    have := h2 i
    by_cases hia : i = a
    · subst hia
      simpa [List.count_cons, Nat.add_assoc, Nat.add_comm 1] using this
    · have hne : (a == i) = false := by simp [Ne.symm hia]
      simpa [List.count_cons, hia, hne] using this

def init (fs0 : FS B R) : Global B R := { fs := fs0, locals := fun _ => {} }

theorem other_step_invisible (env : Env B R) (v : Variant) (cfg : Nat → Config B) (hs : Setup cfg)
    (hfp : ∀ i b, Footprint env v i b (cfg i).rid (cfg i).fmt) (i j : Nat) (hij : i ≠ j)
    (l : Local B R) (fs : FS B R) : Agree (cfg j) (step env v (cfg i) (l, fs)).2 fs := by
  intro p hp
  apply step_frame env v (cfg i) l fs (hs.out i) (fun b => by rw [hs.pid i]; exact hfp i b)
  rw [hs.pid i]
  rcases hp with hp | hp
  · rw [hs.pid j] at hp
    cases p <;> simp_all [owns]
    all_goals (intro e; exact hij e.symm)
  · obtain ⟨n, hn⟩ := hs.inp j
    rw [hp, hn]; rfl

theorem exec_unowned (env : Env B R) (v : Variant) (cfg : Nat → Config B) (hs : Setup cfg)
    (hfp : ∀ i b, Footprint env v i b (cfg i).rid (cfg i).fmt) (p : Path) (hp : ∀ i, owns i p = false)
    (σ : List Nat) : ∀ g : Global B R, (exec env v cfg g σ).fs p = g.fs p := by
  induction σ with
  | nil => intro g; rfl
  | cons a σ ih =>
    intro g
    simp only [exec, List.foldl_cons] at ih ⊢
    rw [ih]
    simp only [gstep]
    exact step_frame env v (cfg a) _ _ (hs.out a) (fun b => by rw [hs.pid a]; exact hfp a b)
      (by rw [hs.pid a]; exact hp a)

end SP.Cli
