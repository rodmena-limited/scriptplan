import Proofs.Loop
/-!
C03 for whole scenarios, single resource.  `Elig e t r`: an effort task whose allocation always selects the one resource `r`.
The loop invariant `PickInv` (a `done` eligible task holds exactly its effort, a pending one has no entry) is kept by every
round (`pickInv_step`); hence `runScenario_effort_exact`: every eligible task that ends up `done` holds exactly its effort in
the final ledger.  Also `runScenario_scheduled_done`: an effort leaf reported as scheduled was completed by `scheduleTask`.
-/
namespace SP

/-- an effort task (no milestone) whose allocation always selects the single resource `r` -/
structure Elig (e : Env) (t r : Nat) : Prop where
  leaf : (e.taskD t).leaf = true
  alloc : (e.taskD t).hasAlloc = true
  nomile : (e.taskD t).milestone = false
  effort : 0 < (e.taskD t).effort
  sel : ∀ σ c, selectBest e σ (e.taskD t).alloc (e.taskD t).alt (e.taskD t).effort c = [r]

def DoneExact (e : Env) (σ : St) : Prop :=
  ∀ t r, Elig e t r → (σ.tst t).done = true → ∃ vis, Exact e σ t r vis

structure PickInv (e : Env) (σ : St) (tasks : List Nat) : Prop where
  inv : Inv e σ
  nodup : tasks.Nodup
  leaf : ∀ t ∈ tasks, (e.taskD t).leaf = true
  pending : ∀ t ∈ tasks, (σ.tst t).done = false ∧ ∀ r i, usageOf (σ.led.get r i).usage t = none
  exact : DoneExact e σ

theorem pickInv_step (e : Env) (wf : WF e) (σ : St) (tasks : List Nat) (t0 : Nat) (h : PickInv e σ tasks)
    (hmem : t0 ∈ tasks) : PickInv e (updateContainers e (scheduleTask e σ t0).1) (tasks.erase t0) := by
  obtain ⟨hinv', hnd', hlf', -, hrest⟩ := round_worklist e wf σ tasks t0 h.inv h.nodup h.leaf hmem
  refine ⟨hinv', hnd', hlf', fun t ht => ?_, fun t r hel hd => ?_⟩
  · obtain ⟨htm, hts, hse⟩ := hrest t ht
    rw [hts]
    exact ⟨(h.pending t htm).1, fun r i => (hse r i).trans ((h.pending t htm).2 r i)⟩
  · by_cases heq : t = t0
    · subst heq
      rw [updateContainers_leaf e _ t hel.leaf] at hd
      obtain ⟨hnd, hclean⟩ := h.pending t hmem
      obtain ⟨vis, hv⟩ := scheduleTask_exact e wf σ t r h.inv hel.leaf hel.alloc hel.nomile hel.effort hel.sel hnd
        (hclean r) (scheduleTask_done e σ t hnd hd)
      exact ⟨vis, Exact.of_led (updateContainers_led e _) hv⟩
    · obtain ⟨hts, hse⟩ := round_other e σ t0 t hel.leaf heq
      rw [hts] at hd
      obtain ⟨vis, hv⟩ := h.exact t r hel hd
      exact ⟨vis, Exact.of_same hse hv⟩

/-- **C03, end to end.**  After scheduling any well-formed project, every effort task whose allocation selects a
    single resource `r` and that the scheduler completed (`done`) holds, in the final ledger, entries on `r` whose
    seconds weighted by `r`'s efficiency add up to exactly the requested effort; and it has no entry on `r` outside
    those slots. -/
theorem runScenario_effort_exact (e : Env) (wf : WF e) (t r : Nat) (hel : Elig e t r)
    (hdone : ((runScenario e).tst t).done = true) : ∃ vis, Exact e (runScenario e) t r vis := by
  obtain ⟨rest, -, h⟩ := scenario_induct (I := fun tasks _ σ => PickInv e σ tasks)
    (fun tasks _ σ t0 h hf => pickInv_step e wf σ tasks t0 h (List.mem_of_find?_eq_some hf))
    (fun _ _ σ _ h => ⟨Inv.of_eq (σ := σ) rfl rfl h.inv, h.nodup, h.leaf, h.pending, h.exact⟩)
    ⟨loopStart_inv e wf, todoOf_nodup e _, todoOf_leaf e _,
     fun t ht => ⟨(todoOf_loopStart e t ht).2.2.2.1, (todoOf_loopStart e t ht).2.2.2.2⟩,
     fun t _ _ hd => absurd hd (by rw [loopStart_done]; exact Bool.noConfusion)⟩
  unfold runScenario at hdone ⊢
  rw [finishScenario_leafT e _ t hel.leaf] at hdone
  obtain ⟨vis, hv⟩ := h.exact t r hel hdone
  exact ⟨vis, Exact.of_led (finishScenario_led e _) hv⟩

def SchedDone (e : Env) (σ : St) : Prop :=
  ∀ t, EffLeaf e t → (σ.tst t).scheduled = true → (σ.tst t).done = true

theorem scheduleTask_schedDone (e : Env) (σ : St) (t0 : Nat) (h : SchedDone e σ) : SchedDone e (scheduleTask e σ t0).1 := by
  intro t hel hs
  by_cases heq : t = t0
  · subst heq
    -- attributes that leave both flags as a frame of `σ` has them
    have keep : ∀ X, TsFrame σ X t → ∀ y : TSt, y.scheduled = (X.tst t).scheduled → y.done = (X.tst t).done →
        y.scheduled = true → y.done = true :=
      fun X hX y h1 h2 hy => by rw [h2, hX.2.1]; exact h t hel (by rw [← hX.2.2.1, ← h1]; exact hy)
    rcases scheduleTask_cases e σ t with h' | ⟨X, hX, h' | ⟨w, h'⟩⟩
    · rw [h'] at hs ⊢
      exact h t hel hs
    · rw [h'] at hs ⊢
      rcases tst_setT_cases X t { X.tst t with runaway := true } with h'' | h''
      · rw [h''] at hs ⊢
        exact keep X hX _ rfl rfl hs
      · rw [h''] at hs ⊢
        exact keep X hX _ rfl rfl hs
    · rw [h'] at hs ⊢
      rcases tst_setT_cases X t (finalT e t (σ.tst t).forward (walkStart e σ t).2.cur (X.tst t) w) with h'' | h''
      · rw [h'']
        rfl
      · rw [h''] at hs ⊢
        exact keep X hX _ rfl rfl hs
  · rw [scheduleTask_other e σ t0 t heq] at hs ⊢
    exact h t hel hs

theorem updateContainers_schedDone (e : Env) (σ : St) (h : SchedDone e σ) : SchedDone e (updateContainers e σ) := by
  intro t hel hs
  rw [updateContainers_leaf e σ t hel.1] at hs ⊢
  exact h t hel hs

/-- **reported as scheduled ⇒ completed by `scheduleTask`**, for every effort leaf of every project -/
theorem runScenario_scheduled_done (e : Env) (t : Nat) (hel : EffLeaf e t)
    (hs : ((runScenario e).tst t).scheduled = true) : ((runScenario e).tst t).done = true := by
  obtain ⟨-, -, h⟩ := scenario_induct (I := fun _ _ σ => SchedDone e σ)
    (fun _ _ σ t0 h _ => updateContainers_schedDone e _ (scheduleTask_schedDone e σ t0 h)) (fun _ _ _ _ h => h)
    (fun t hel hs => absurd hs (by rw [(loopStart_effLeaf e t hel).1]; exact Bool.noConfusion))
  unfold runScenario at hs ⊢
  rw [finishScenario_leafT e _ t hel.1] at hs ⊢
  exact h t hel hs

end SP
