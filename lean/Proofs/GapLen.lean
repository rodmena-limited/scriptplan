import Proofs.Walk
/-!
`gaplength`, full functional statement: the walk `lenWalk` ends at the instant at which EXACTLY the requested number of seconds
of project working time has passed since the date it starts from — no working slot is skipped, none is counted twice — or it
runs out of horizon with less than that.
-/
namespace SP

/-- seconds of project working time in `[a, b)` within the `n` slots from slot `i` on -/
def worked (e : Env) (a b : Int) : Nat → Int → Int
  | 0, _ => 0
  | n + 1, i => (if e.projWork i then max 0 (min b (e.time (i + 1)) - max a (e.time i)) else 0) + worked e a b n (i + 1)

/-- the slots from `i` on do not see where, at or before the start of slot `i`, the interval begins -/
theorem worked_congr_left (e : Env) (hG : 0 < e.G) (a a' b : Int) (n : Nat) (i : Int) (h1 : a ≤ e.time i) (h2 : a' ≤ e.time i) :
    worked e a b n i = worked e a' b n i := by
  induction n generalizing i with
  | zero => rfl
  | succ n ih =>
    unfold worked
    have hs := time_mono e hG i (i + 1) (by omega)
    rw [ih (i + 1) (Int.le_trans h1 hs) (Int.le_trans h2 hs), Int.max_eq_right h1, Int.max_eq_right h2]

theorem worked_succ_of_le (e : Env) (hG : 0 < e.G) (a b : Int) (n : Nat) (i : Int) (h1 : e.time i ≤ a)
    (h2 : a ≤ e.time (i + 1)) (hb : e.time (i + 1) ≤ b) :
    worked e a b (n + 1) i = (if e.projWork i then e.time (i + 1) - a else 0) + worked e (e.time (i + 1)) b n (i + 1) := by
  show (if e.projWork i then max 0 (min b (e.time (i + 1)) - max a (e.time i)) else 0) + worked e a b n (i + 1) = _
  rw [worked_congr_left e hG a (e.time (i + 1)) b n (i + 1) h2 (Int.le_refl _)]
  rw [Int.min_eq_right hb, Int.max_eq_left h1, Int.max_eq_right (Int.sub_nonneg_of_le h2)]

/-- an interval inside a working slot counts whole -/
theorem worked_one (e : Env) (a b i : Int) (hw : e.projWork i = true) (h1 : e.time i ≤ a) (hab : a ≤ b)
    (h2 : b ≤ e.time (i + 1)) : worked e a b 1 i = b - a := by
  show (if e.projWork i then max 0 (min b (e.time (i + 1)) - max a (e.time i)) else 0) + 0 = b - a
  rw [if_pos hw, Int.min_eq_left h2, Int.max_eq_left h1, Int.max_eq_right (Int.sub_nonneg_of_le hab), Int.add_zero]

/-- one slot on: if from the start of slot `i + 1` the instant `out` is reached with `rem'` seconds counted (or the horizon with
    less), and slot `i` counts `c` seconds after `dt`, then from `dt` it is reached with `rem' + c` -/
theorem worked_step (e : Env) (hG : 0 < e.G) (dt out rem rem' c i : Int) (h1 : e.time i ≤ dt) (h2 : dt ≤ e.time (i + 1))
    (hge : e.time (i + 1) ≤ out) (hc : rem' + c = rem) (hslot : (if e.projWork i then e.time (i + 1) - dt else 0) = c)
    (h : ∃ n : Nat,
      (worked e (e.time (i + 1)) out n (i + 1) = rem' ∧ out ≤ e.time (i + 1 + n)) ∨
      (worked e (e.time (i + 1)) out n (i + 1) < rem' ∧ e.upper < i + 1 + n)) :
    ∃ n : Nat,
      (worked e dt out n i = rem ∧ out ≤ e.time (i + n)) ∨ (worked e dt out n i < rem ∧ e.upper < i + n) := by
  obtain ⟨n, hn⟩ := h
  have hidx : i + 1 + (n : Int) = i + ((n + 1 : Nat) : Int) := by push_cast; omega
  refine ⟨n + 1, ?_⟩
  rw [worked_succ_of_le e hG dt out n i h1 h2 hge, hslot, ← hidx]
  rcases hn with ⟨hn1, hn2⟩ | ⟨hn1, hn2⟩
  · exact Or.inl ⟨by omega, hn2⟩
  · exact Or.inr ⟨by omega, hn2⟩

/-- **`gaplength` counts exactly**: started at a date `dt` inside slot `i` (`time i ≤ dt ≤ time (i + 1)`) with `rem > 0` seconds
    to go and enough fuel, the walk ends at `out ≥ dt` such that for some number `n` of slots from `i` on, either the project
    working time in `[dt, out)` within those slots is exactly `rem` and `out` lies at or before the end of the last of them,
    or the horizon was reached (`upper < i + n`) with less than `rem` seconds of working time in between. -/
theorem lenWalk_exact (e : Env) (hG : 0 < e.G) (f : Nat) (rem i dt : Int) (h1 : e.time i ≤ dt) (h2 : dt ≤ e.time (i + 1))
    (hrem : 0 < rem) (hf : e.upper + 1 - i < (f : Int)) :
    ∃ n : Nat,
      (worked e dt (lenWalk e f rem i dt) n i = rem ∧ lenWalk e f rem i dt ≤ e.time (i + n)) ∨
      (worked e dt (lenWalk e f rem i dt) n i < rem ∧ e.upper < i + n) := by
  induction f generalizing rem i dt with
  | zero =>
    refine ⟨0, Or.inr ⟨hrem, ?_⟩⟩
    simp at hf ⊢; omega
  | succ f ih =>
    have hti := time_succ e i
    have hstep : e.time (i + 1) ≤ e.time (i + 1 + 1) := by rw [time_succ e (i + 1)]; omega
    -- the walk goes on from the next slot, with `c` seconds counted in this one and `rem'` to go
    have next := fun rem' c (hrem' : 0 < rem') =>
      worked_step e hG dt _ rem rem' c i h1 h2 (lenWalk_ge e hG f rem' (i + 1) (e.time (i + 1)) hstep)
        (h := ih rem' (i + 1) (e.time (i + 1)) (Int.le_refl _) hstep hrem' (by push_cast at hf ⊢; omega))
    generalize hout : lenWalk e (f + 1) rem i dt = out
    unfold lenWalk at hout
    by_cases hi : i ≤ e.upper
    · rw [if_pos (by simp [hrem, hi])] at hout
      by_cases hw : e.projWork i = true
      · rw [if_pos hw] at hout
        by_cases hu : e.G - (dt - e.time i) ≥ rem
        · -- the gap ends inside this slot
          rw [if_pos hu] at hout
          subst hout
          have hin : dt + rem ≤ e.time (i + 1) := by omega
          refine ⟨1, Or.inl ⟨?_, hin⟩⟩
          rw [worked_one e dt (dt + rem) i hw h1 (Int.le_add_of_nonneg_right (Int.le_of_lt hrem)) hin,
            Int.add_comm dt rem, Int.add_sub_cancel]
        · -- the whole rest of this slot counts
          rw [if_neg hu] at hout
          subst hout
          exact next _ (e.G - (dt - e.time i)) (by omega) (by omega) (by rw [if_pos hw]; omega)
      · -- not a working slot of the project calendar: passed over
        rw [if_neg hw] at hout
        subst hout
        exact next rem 0 hrem (Int.add_zero rem) (if_neg hw)
    · -- the horizon is behind: the walk stops
      rw [if_neg (by simp [hi])] at hout
      subst hout
      refine ⟨0, Or.inr ⟨hrem, ?_⟩⟩
      simp; omega

end SP
