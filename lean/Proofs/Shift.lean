import Proofs.Inherit
/-! Invariance of the calendar view and of the elaborated environment under shifting every date of a
    UTC project by a whole number of weeks (C14). -/
namespace SP

def shiftIv (d : Int) (ivs : Intervals) : Intervals := ivs.map (fun iv => (iv.1 + d, iv.2 + d))

theorem inAny_shift (d : Int) (ivs : Intervals) (t : Int) : inAny (shiftIv d ivs) (t + d) = inAny ivs t := by
  simp only [inAny, shiftIv, List.any_map, Function.comp_def, Int.add_le_add_iff_right, Int.add_lt_add_iff_right]

theorem dayOf_add_days (t d : Int) : dayOf (t + 86400 * d) = dayOf t + d :=
  Int.add_mul_ediv_left t d (by decide)

theorem secOfDay_add_days (t d : Int) : secOfDay (t + 86400 * d) = secOfDay t :=
  Int.add_mul_emod_self_left t 86400 d

theorem weeks_eq_days (k : Int) : 604800 * k = 86400 * (7 * k) := Int.mul_assoc 86400 7 k

theorem weekdayOfDay_add_weeks (d k : Int) : weekdayOfDay (d + 7 * k) = weekdayOfDay d := by
  unfold weekdayOfDay
  rw [Int.add_right_comm, Int.add_mul_emod_self_left]

theorem mondayOf_add_weeks (d k : Int) : mondayOf (d + 7 * k) = mondayOf d + 7 * k := by
  unfold mondayOf
  rw [weekdayOfDay_add_weeks, Int.sub_eq_add_neg, Int.add_right_comm, ← Int.sub_eq_add_neg]

theorem weekday_shift (t k : Int) : weekday (t + 604800 * k) = weekday t := by
  unfold weekday
  rw [weeks_eq_days, dayOf_add_days, weekdayOfDay_add_weeks]

theorem hourOf_shift (t k : Int) : hourOf (t + 604800 * k) = hourOf t := by
  unfold hourOf
  rw [weeks_eq_days, secOfDay_add_days]

theorem minuteOfDay_shift (t k : Int) : minuteOfDay (t + 604800 * k) = minuteOfDay t := by
  unfold minuteOfDay
  rw [weeks_eq_days, secOfDay_add_days]

def shiftCal (d : Int) (c : CalEnv) : CalEnv :=
  { c with start := c.start + d, gvac := shiftIv d c.gvac, gleaves := shiftIv d c.gleaves }

def shiftRc (d : Int) (rc : ResCal) : ResCal := { rc with leaves := shiftIv d rc.leaves }

theorem shiftCal_time (d : Int) (c : CalEnv) (i : Int) : (shiftCal d c).time i = c.time i + d :=
  Int.add_right_comm c.start d (i * c.G)

theorem defaultWorking_shift (k : Int) (c : CalEnv) (t : Int) :
    defaultWorking (shiftCal (604800 * k) c) (t + 604800 * k) = defaultWorking c t := by
  simp only [defaultWorking, shiftCal, inAny_shift, weekday_shift, hourOf_shift]

theorem projWorkAt_shift (k : Int) (c : CalEnv) (i : Int) :
    projWorkAt (shiftCal (604800 * k) c) i = projWorkAt c i := by
  unfold projWorkAt
  rw [shiftCal_time, defaultWorking_shift]
  rfl

theorem onShiftAt_shift (k : Int) (c : CalEnv) (rc : ResCal) (hz : rc.zone = none) (i : Int) :
    onShiftAt (shiftCal (604800 * k) c) (shiftRc (604800 * k) rc) i = onShiftAt c rc i := by
  simp only [onShiftAt, shiftCal_time, projWorkAt_shift, shiftRc, hz]
  simp only [shiftCal, inAny_shift, weekday_shift, minuteOfDay_shift]

theorem dayIdxAt_shift (k : Int) (c : CalEnv) (i : Int) : dayIdxAt (shiftCal (604800 * k) c) i = dayIdxAt c i := by
  unfold dayIdxAt
  rw [shiftCal_time]
  show dayOf (c.time i + 604800 * k) - dayOf (c.start + 604800 * k) = _
  rw [weeks_eq_days, dayOf_add_days, dayOf_add_days, Int.add_sub_add_right]

theorem weekIdxAt_shift (k : Int) (c : CalEnv) (i : Int) : weekIdxAt (shiftCal (604800 * k) c) i = weekIdxAt c i := by
  unfold weekIdxAt
  rw [shiftCal_time]
  show (mondayOf (dayOf (c.time i + 604800 * k)) - mondayOf (dayOf (c.start + 604800 * k))) / 7 = _
  rw [weeks_eq_days, dayOf_add_days, dayOf_add_days, mondayOf_add_weeks, mondayOf_add_weeks, Int.add_sub_add_right]

theorem leaveMarkedAt_shift (d : Int) (c : CalEnv) (rc : ResCal) (n : Int) :
    leaveMarkedAt (shiftCal d c) (shiftRc d rc) n = leaveMarkedAt c rc n := by
  simp only [leaveMarkedAt, shiftCal, shiftRc, shiftIv, ← List.map_append, List.any_map, Function.comp_def,
    Int.add_sub_add_right]
theorem getD_map {α β : Type} (f : α → β) (a : Array α) (i : Nat) (d : α) : (a.map f).getD i (f d) = f (a.getD i d) := by
  rw [Array.getD_eq_getD_getElem?, Array.getD_eq_getD_getElem?, Array.getElem?_map]
  cases a[i]? <;> rfl

def shiftProj (d : Int) (p : RawProj) : RawProj :=
  { p with start := p.start + d, stop := p.stop + d, gvac := shiftIv d p.gvac, gleaves := shiftIv d p.gleaves,
           res := p.res.map (fun r => { r with leaves := r.leaves.map (shiftIv d) }),
           tasks := p.tasks.map (fun t => { t with start := t.start.map (· + d), stop := t.stop.map (· + d) }) }

/-- no resource declares a time zone (naive UTC everywhere) -/
def UTCProject (p : RawProj) : Prop := ∀ r ∈ p.res, r.zone = none

theorem relTasks_shift (d : Int) (p : RawProj) : relTasks (shiftProj d p) = relTasks p := by
  simp only [relTasks, shiftProj, List.map_map, Option.map_map, Function.comp_def, Int.add_sub_add_right]

theorem stopRelOf_shift (d : Int) (p : RawProj) : stopRelOf (shiftProj d p) = stopRelOf p := by
  unfold stopRelOf
  rw [relTasks_shift]
  simp only [shiftProj, Int.add_sub_add_right]

theorem resDs_shift (d : Int) (p : RawProj) : resDs (shiftProj d p).res = resDs p.res := by
  unfold resDs shiftProj
  simp only [List.map_map]
  rfl

theorem resCalsCore_map_leaves (f : Intervals → Intervals) (hf : f [] = []) (par : List (Option Nat))
    (zones : List (Option (List (Int × Int)))) (hours shifts : List (Option Hours)) (leaves : List (Option Intervals)) (n : Nat) :
    resCalsCore par zones hours shifts (leaves.map (Option.map f)) n =
      (resCalsCore par zones hours shifts leaves n).map (fun rc => { rc with leaves := f rc.leaves }) := by
  simp only [resCalsCore, inheritOpt_map, Array.map_map]
  congr 1
  funext i
  simp only [Function.comp, Array.getD_eq_getD_getElem?, Array.getElem?_map]
  cases (inheritOpt par leaves)[i]? with
  | none => exact congrArg _ hf.symm
  | some o => cases o with
    | none => exact congrArg _ hf.symm
    | some v => rfl

theorem resCals_shift (d : Int) (p : RawProj) :
    resCals (shiftProj d p).res = (resCals p.res).map (shiftRc d) :=
  calc resCals (shiftProj d p).res
      = resCalsCore (p.res.map (·.parent)) (p.res.map (·.zone)) (p.res.map (·.hours)) (p.res.map (·.shift))
          ((p.res.map (·.leaves)).map (Option.map (shiftIv d))) p.res.length := by
        simp only [resCals, shiftProj, List.map_map, List.length_map]
        rfl
    _ = _ := resCalsCore_map_leaves (shiftIv d) rfl ..

theorem resCalsCore_getD (par : List (Option Nat)) (zones : List (Option (List (Int × Int)))) (hours shifts : List (Option Hours))
    (leaves : List (Option Intervals)) (n i : Nat) :
    (resCalsCore par zones hours shifts leaves n).getD i {} =
      if i < n then { zone := (inheritOpt par zones).getD i none,
                      hours := (inheritOpt par ((shifts.zip hours).map ownCal)).getD i none,
                      leaves := ((inheritOpt par leaves).getD i none).getD [] }
      else {} := by
  unfold resCalsCore
  rw [Array.getD_eq_getD_getElem?, Array.getElem?_map, List.getElem?_toArray]
  by_cases hi : i < n
  · rw [if_pos hi, List.getElem?_range hi]
    rfl
  · rw [if_neg hi, List.getElem?_eq_none (by rw [List.length_range]; omega)]
    rfl

theorem resCals_zone_none (p : RawProj) (h : UTCProject p) (r : Nat) : ((resCals p.res).getD r {}).zone = none := by
  rw [resCals, resCalsCore_getD]
  by_cases hr : r < p.res.length
  · rw [if_pos hr]
    exact inheritOpt_forall (P := (· = none)) rfl _ _ (List.forall_mem_map.mpr h) r
  · rw [if_neg hr]
/-- **C14 at the level of the model**: shifting every date of a UTC project by `k` whole weeks leaves
    the elaborated scheduler environment unchanged (it works in times relative to the project start),
    hence the scheduler's result: every reported date is `start + relative date` and moves by exactly
    `604800·k` seconds, nothing else changes. -/
theorem elaborate_shift (k : Int) (p : RawProj) (h : UTCProject p) :
    (elaborate (shiftProj (604800 * k) p)).env = (elaborate p).env := by
  have hlim : ((shiftProj (604800 * k) p).res.flatMap (·.limits)) ++ ((shiftProj (604800 * k) p).tasks.flatMap (·.limits)) =
      (p.res.flatMap (·.limits)) ++ (p.tasks.flatMap (·.limits)) := by
    simp only [shiftProj, List.flatMap_map]
  have hn : ((shiftProj (604800 * k) p).res.map (·.limits.length)).sum = (p.res.map (·.limits.length)).sum := by
    simp only [shiftProj, List.map_map, Function.comp_def]
  have hG : (shiftProj (604800 * k) p).G = p.G := rfl
  have hA : (shiftProj (604800 * k) p).projAlap = p.projAlap := rfl
  let c0 : CalEnv := { start := p.start, G := p.G, size := ceilDiv (stopRelOf p) p.G + 1, gvac := p.gvac, gleaves := p.gleaves }
  have hc : ({ start := (shiftProj (604800 * k) p).start, G := p.G, size := ceilDiv (stopRelOf p) p.G + 1,
               gvac := (shiftProj (604800 * k) p).gvac, gleaves := (shiftProj (604800 * k) p).gleaves } : CalEnv) =
      shiftCal (604800 * k) c0 := rfl
  have hget : ∀ r, ((resCals p.res).map (shiftRc (604800 * k))).getD r {} = shiftRc (604800 * k) ((resCals p.res).getD r {}) :=
    fun r => getD_map (shiftRc (604800 * k)) _ r {}
  have hon : ∀ r i, onShiftAt (shiftCal (604800 * k) c0) (shiftRc (604800 * k) ((resCals p.res).getD r {})) i =
      onShiftAt c0 ((resCals p.res).getD r {}) i :=
    fun r i => onShiftAt_shift k c0 _ (resCals_zone_none p h r) i
  unfold elaborate
  simp only [stopRelOf_shift, relTasks_shift, resDs_shift, resCals_shift, hG, hA, hlim, hn, hc, hget, hon, leaveMarkedAt_shift,
    funext (projWorkAt_shift k c0), funext (dayIdxAt_shift k c0), funext (weekIdxAt_shift k c0)]
  rfl

end SP
