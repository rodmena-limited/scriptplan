import Model
/-! Python's `round` (half to even) on exact rationals: the result is the floor or its successor, it does not pass an integer
the argument does not pass, and it is nonnegative on nonnegative arguments.  Used where `finishTask` rounds the end of a
task (C06). -/
namespace SP

theorem roundHalfEven_bounds (x : Rat) : (x.floor : Int) ≤ roundHalfEven x ∧ roundHalfEven x ≤ x.floor + 1 := by
  -- the result is the floor or its successor
  have lo : x.floor ≤ x.floor ∧ x.floor ≤ x.floor + 1 := ⟨Int.le_refl _, Int.le_add_one (Int.le_refl _)⟩
  have hi : x.floor ≤ x.floor + 1 ∧ x.floor + 1 ≤ x.floor + 1 := ⟨lo.2, Int.le_refl _⟩
  have pick : ∀ (c : Prop) [Decidable c] (a b : Int), (x.floor ≤ a ∧ a ≤ x.floor + 1) → (x.floor ≤ b ∧ b ≤ x.floor + 1) →
      x.floor ≤ (if c then a else b) ∧ (if c then a else b) ≤ x.floor + 1 := by
    intro c _ a b ha hb
    by_cases hc : c
    · rw [if_pos hc]; exact ha
    · rw [if_neg hc]; exact hb
  exact pick _ _ _ lo (pick _ _ _ hi (pick _ _ _ lo hi))

theorem roundHalfEven_mono_int (x : Rat) (n : Int) (h : x ≤ (n : Rat)) : roundHalfEven x ≤ n := by
  have hb := roundHalfEven_bounds x
  have hfl : x.floor ≤ n := Rat.intCast_le_intCast.mp (Rat.le_trans (Rat.floor_le x) h)
  by_cases heq : x.floor = n
  · -- `x ≤ n = ⌊x⌋`: the fractional part is not positive, so rounding gives the floor
    have hfr : x - (x.floor : Rat) < 1 / 2 := by rw [heq]; grind
    unfold roundHalfEven
    simp only []
    rw [if_pos hfr]
    exact hfl
  · omega

theorem roundHalfEven_nonneg (x : Rat) (h : 0 ≤ x) : 0 ≤ roundHalfEven x := by
  have hb := roundHalfEven_bounds x
  have : (0 : Int) ≤ x.floor := by
    have := Rat.le_floor_iff.mpr (show ((0 : Int) : Rat) ≤ x by simpa using h)
    exact this
  omega

end SP
