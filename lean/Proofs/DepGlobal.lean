import Proofs.DepStart
import Proofs.EffortGlobal
/-!
C04 for whole scenarios, forward mode: every completed forward task without a start of its own starts at or after
(start | end) + gap of each of its predecessors — own, inherited and inverted edges.

The loop invariant is stated once, for any class `D` of dependent leaves whose `scheduleTask` dates them at or after their
bound; the classes are the effort tasks (`FwdEff`, here) and those together with the milestones (`Proofs/DepMile`).  It
speaks of every predecessor, leaf or container, in the state the loop ends in; `finishScenario` leaves the leaves alone,
which gives `runScenario_depsOK`, and re-dates no container of a well-formed tree (`Proofs/DepAll`).
-/
namespace SP

structure FwdEff (e : Env) (t : Nat) : Prop where
  leaf : (e.taskD t).leaf = true
  alloc : (e.taskD t).hasAlloc = true
  nomile : (e.taskD t).milestone = false
  effort : 0 < (e.taskD t).effort
  nostart : (e.taskD t).startProvided = false

def dateOf (σ : St) (dp : Dep) : Option Int :=
  if dp.onstart then (σ.tst dp.target).start else (σ.tst dp.target).stop

/-- every completed forward task of the class `D` starts at or after the date each of its edges contributes, and the
    predecessors are scheduled -/
def DepsOn (D : Nat → Prop) (e : Env) (σ : St) : Prop :=
  ∀ t, D t → (σ.tst t).done = true → (σ.tst t).forward = true →
    ∀ dp ∈ (e.taskD t).allDeps,
      (σ.tst dp.target).scheduled = true ∧
      ∀ dt v, dateOf σ dp = some dt → (σ.tst t).start = some v → depDate e dp dt ≤ v

structure DepInvOn (D : Nat → Prop) (e : Env) (σ : St) (tasks : List Nat) : Prop where
  nodup : tasks.Nodup
  leaf : ∀ t ∈ tasks, (e.taskD t).leaf = true
  inrange : ∀ t ∈ tasks, t < σ.ts.size
  unsched : ∀ t ∈ tasks, (σ.tst t).scheduled = false ∧ (σ.tst t).done = false
  ok : DepsOn D e σ

theorem dateOf_congr {σ σ' : St} (dp : Dep) (h1 : (σ'.tst dp.target).start = (σ.tst dp.target).start)
    (h2 : (σ'.tst dp.target).stop = (σ.tst dp.target).stop) : dateOf σ' dp = dateOf σ dp := by
  unfold dateOf; rw [h1, h2]

/-- what the loop needs to know of the class `D`: its members are leaves, and a successful `scheduleTask` leaves one with a
    start at or after its bound -/
structure StartsAtBound (D : Nat → Prop) (e : Env) : Prop where
  leaf : ∀ t, D t → (e.taskD t).leaf = true
  start : ∀ σ t, D t → t < σ.ts.size → (σ.tst t).forward = true → (σ.tst t).done = false →
    (scheduleTask e σ t).2 = true → ∃ v, ((scheduleTask e σ t).1.tst t).start = some v ∧ boundOf e σ t ≤ v

theorem fwdEff_startsAtBound (e : Env) (wf : WF e) : StartsAtBound (FwdEff e) e :=
  ⟨fun _ h => h.leaf, fun σ t h hb hf hnd hok => scheduleTask_start_ge e wf σ t hb hf h.nostart h.alloc h.nomile h.effort hnd hok⟩

theorem ready_forward_deps (e : Env) (σ : St) (t : Nat) (hf : (σ.tst t).forward = true) (hr : ready e σ t = true) :
    ∀ dp ∈ (e.taskD t).allDeps, (σ.tst dp.target).scheduled = true := by
  unfold ready at hr
  simp only [hf, if_true] at hr
  unfold asapReady at hr
  simpa [List.all_eq_true] using hr

variable {D : Nat → Prop}

theorem depInvOn_step (e : Env) (hD : StartsAtBound D e) (σ : St) (tasks : List Nat) (t0 : Nat) (h : DepInvOn D e σ tasks)
    (hmem : t0 ∈ tasks) (hready : ready e σ t0 = true) :
    DepInvOn D e (updateContainers e (scheduleTask e σ t0).1) (tasks.erase t0) := by
  obtain ⟨hus0, hnd0⟩ := h.unsched t0 hmem
  obtain ⟨hnd', hlf', hsz, hrest⟩ := round_rest e σ tasks t0 h.nodup h.leaf
  refine ⟨hnd', hlf', fun t ht => by rw [hsz]; exact h.inrange t (hrest t ht).1,
    fun t ht => by rw [(hrest t ht).2.1]; exact h.unsched t (hrest t ht).1, fun t ht hd hfw dp hdp => ?_⟩
  have hlt := hD.leaf t ht
  -- against the predecessor's date in `σ`: by the bound for `t0`, by the invariant for the others
  have key : (σ.tst dp.target).scheduled = true ∧ ∀ dt v, dateOf σ dp = some dt →
      ((updateContainers e (scheduleTask e σ t0).1).tst t).start = some v → depDate e dp dt ≤ v := by
    by_cases heq : t = t0
    · subst heq
      rw [updateContainers_leaf e _ t hlt] at hd hfw ⊢
      rw [scheduleTask_self_forward] at hfw
      obtain ⟨v0, hv0, hle0⟩ := hD.start σ t ht (h.inrange t hmem) hfw hnd0 (scheduleTask_done e σ t hnd0 hd)
      refine ⟨ready_forward_deps e σ t hfw hready dp hdp, fun dt v hdt hv => ?_⟩
      have := boundOf_ge_depDate e σ t dp hdp dt hdt
      rw [hv0] at hv
      cases hv
      omega
    · rw [(round_other e σ t0 t hlt heq).1] at hd hfw ⊢
      exact h.ok t ht hd hfw dp hdp
  -- the predecessor was scheduled before `t0`: the round leaves it alone
  have hx := round_scheduled e σ t0 dp.target hus0 key.1
  exact ⟨by rw [hx]; exact key.1,
    fun dt v hdt hv => key.2 dt v (by rw [← dateOf_congr dp (by rw [hx]) (by rw [hx])]; exact hdt) hv⟩

/-- when the loop ends, in the state before `finishScenario` -/
theorem scheduleScenario_depsOn (e : Env) (hD : StartsAtBound D e) :
    DepsOn D e (scheduleScenario e (prepare e (initState e))) := by
  obtain ⟨rest, -, (h : DepInvOn D e _ rest)⟩ := scenario_induct (I := fun tasks _ σ => DepInvOn D e σ tasks)
    (fun tasks _ σ t0 h hf => depInvOn_step e hD σ tasks t0 h (List.mem_of_find?_eq_some hf) (by simpa using List.find?_some hf))
    (fun _ _ _ _ h => ⟨h.nodup, h.leaf, h.inrange, h.unsched, h.ok⟩)
    ⟨todoOf_nodup e _, todoOf_leaf e _, fun t ht => (todoOf_loopStart e t ht).2.1,
     fun t ht => ⟨(todoOf_loopStart e t ht).2.2.1, (todoOf_loopStart e t ht).2.2.2.1⟩,
     fun t _ hd => absurd hd (by rw [loopStart_done]; exact Bool.noConfusion)⟩
  exact h.ok

/-- … and in the final schedule, for the predecessors whose dates and scheduled flag `finishScenario` keeps -/
theorem runScenario_depsOn_of (e : Env) (hD : StartsAtBound D e) (t : Nat) (ht : D t)
    (hd : ((runScenario e).tst t).done = true) (hfw : ((runScenario e).tst t).forward = true)
    (dp : Dep) (hdp : dp ∈ (e.taskD t).allDeps)
    (hx : ((runScenario e).tst dp.target).start = ((scheduleScenario e (prepare e (initState e))).tst dp.target).start ∧
      ((runScenario e).tst dp.target).stop = ((scheduleScenario e (prepare e (initState e))).tst dp.target).stop ∧
      ((runScenario e).tst dp.target).scheduled = ((scheduleScenario e (prepare e (initState e))).tst dp.target).scheduled) :
    ((runScenario e).tst dp.target).scheduled = true ∧
    ∀ dt v, dateOf (runScenario e) dp = some dt → ((runScenario e).tst t).start = some v → depDate e dp dt ≤ v := by
  unfold runScenario at hd hfw hx ⊢
  rw [finishScenario_leafT e _ t (hD.leaf t ht)] at hd hfw ⊢
  obtain ⟨hxs, hineq⟩ := scheduleScenario_depsOn e hD t ht hd hfw dp hdp
  exact ⟨by rw [hx.2.2]; exact hxs, fun dt v hdt hv => hineq dt v (by rw [← dateOf_congr dp hx.1 hx.2.1]; exact hdt) hv⟩

/-- `DepsOn (FwdEff e)`, read at the predecessors that are leaves -/
def DepsOK (e : Env) (σ : St) : Prop :=
  ∀ t, FwdEff e t → (σ.tst t).done = true → (σ.tst t).forward = true →
    ∀ dp ∈ (e.taskD t).allDeps, (e.taskD dp.target).leaf = true →
      (σ.tst dp.target).scheduled = true ∧
      ∀ dt v, dateOf σ dp = some dt → (σ.tst t).start = some v → depDate e dp dt ≤ v

/-- **C04, forward mode, end to end.**  After scheduling any well-formed project: every completed forward effort task
    without a start of its own starts at or after `(start | end) + gap` of every leaf predecessor named by one of its
    edges — own, inherited from enclosing containers, or created by `precedes` on the other side — and every such
    predecessor is scheduled. -/
theorem runScenario_depsOK (e : Env) (wf : WF e) : DepsOK e (runScenario e) := by
  intro t hel hd hfw dp hdp hxl
  refine runScenario_depsOn_of e (fwdEff_startsAtBound e wf) t hel hd hfw dp hdp ?_
  unfold runScenario
  rw [finishScenario_leafT e _ dp.target hxl]
  exact ⟨rfl, rfl, rfl⟩

end SP
