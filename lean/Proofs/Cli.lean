import Model.Cli
/-!
Helper lemmas for C19/C20 (`plan report` as an effect program).

* algebra of `Op.apply`/`applyOps`; the resource a path belongs to (`res`, `owns`), operations confined to one
  resource (`OpOn`, `applyOps_other`), write footprints (`footprint_on`, `stepCore_ops_owned`, `step_frame`);
* the `engine` statement by its four outcomes (`stepCore_engine`), for the case analyses over the program counter;
* a step looks only at its own view: file systems that `Agree` there give the same step (`step_congr`);
* the auto report's output name is a plain file name (`kindOf_rid`, `outPath_rid`);
* what the engine leaves at the auto report's path (`engine_auto`);
* `iter` bookkeeping, and an exited process stays exited (`iter_exited`).
-/
namespace SP.Cli
variable {B R : Type}

@[simp] theorem applyOps_nil (fs : FS B R) : applyOps fs [] = fs := rfl
@[simp] theorem applyOps_cons (fs : FS B R) (o : Op B R) (os : List (Op B R)) :
    applyOps fs (o :: os) = applyOps (o.apply fs) os := rfl
theorem applyOps_append (fs : FS B R) (a b : List (Op B R)) :
    applyOps fs (a ++ b) = applyOps (applyOps fs a) b := by
  simp [applyOps, List.foldl_append]
@[simp] theorem apply_set (fs : FS B R) (p q : Path) (n : Node B R) :
    (Op.set p n).apply fs q = if q = p then some n else fs q := rfl
@[simp] theorem apply_del (fs : FS B R) (p q : Path) :
    (Op.del p : Op B R).apply fs q = if q = p then none else fs q := rfl
@[simp] theorem apply_rmtree (fs : FS B R) (pid : Nat) (q : Path) :
    (Op.rmtree pid : Op B R).apply fs q = if inTree pid q then none else fs q := rfl

/-- the paths that belong to process `pid`: the names the OS gave it and everything below its output directory -/
def owns (pid : Nat) : Path → Bool
  | .tmp q _ => q == pid
  | .inDir q _ => q == pid
  | _ => false

/-- the resource of process `pid` a path belongs to: one of its two temp files, or its output
    directory together with everything below it -/
def res (pid : Nat) : Path → Option TmpKind
  | .tmp q k => if q = pid then some k else none
  | .inDir q _ => if q = pid then some .outDir else none
  | _ => none

theorem owns_eq_res (pid : Nat) (p : Path) : owns pid p = (res pid p).isSome := by
  cases p <;> simp [owns, res] <;> split <;> simp_all

theorem inTree_iff_res {pid : Nat} {p : Path} : inTree pid p = true ↔ res pid p = some .outDir := by
  cases p <;> simp [inTree, res]
  case tmp q k => cases k <;> simp

/-- a write operation confined to resource `k` of process `pid` -/
def OpOn (pid : Nat) (k : TmpKind) : Op B R → Prop
  | .set p _ => res pid p = some k
  | .del p => res pid p = some k
  | .rmtree q => q = pid ∧ k = .outDir

theorem apply_other {pid : Nat} {k : TmpKind} {op : Op B R} (h : OpOn pid k op) (fs : FS B R) {p : Path}
    (hp : res pid p ≠ some k) : op.apply fs p = fs p := by
  cases op with
  | set q n => exact if_neg fun (e : p = q) => hp (e ▸ (h : res pid q = some k))
  | del q => exact if_neg fun (e : p = q) => hp (e ▸ (h : res pid q = some k))
  | rmtree q =>
    obtain ⟨rfl, rfl⟩ := h
    exact if_neg fun e => hp (inTree_iff_res.mp e)

theorem applyOps_other {pid : Nat} {k : TmpKind} {ops : List (Op B R)} (h : ∀ op ∈ ops, OpOn pid k op)
    (fs : FS B R) {p : Path} (hp : res pid p ≠ some k) : applyOps fs ops p = fs p := by
  induction ops generalizing fs with
  | nil => rfl
  | cons o os ih =>
    rw [applyOps_cons, ih (fun op ho => h op (by simp [ho])), apply_other (h o (by simp)) fs hp]

theorem apply_pointwise (op : Op B R) {fs fs' : FS B R} {p : Path} (h : fs p = fs' p) :
    op.apply fs p = op.apply fs' p := by
  cases op <;> simp [h]

theorem applyOps_pointwise (ops : List (Op B R)) {fs fs' : FS B R} {p : Path} (h : fs p = fs' p) :
    applyOps fs ops p = applyOps fs' ops p := by
  induction ops generalizing fs fs' with
  | nil => exact h
  | cons o os ih => exact ih (apply_pointwise o h)

theorem hexDigit_ne_slash (d : Fin 16) : hexDigit d ≠ '/' := by revert d; decide

theorem comps_noslash (n : Name) (h : '/' ∉ n) : comps n = [n] := by
  induction n with
  | nil => rfl
  | cons c cs ih =>
    have hc : c ≠ '/' := by intro e; apply h; simp [e]
    have hcs : '/' ∉ cs := by intro e; apply h; simp [e]
    simp [comps, ih hcs, hc]

theorem slash_notin_rid (c : Config B) : '/' ∉ c.rid := by
  intro h
  simp only [Config.rid, List.mem_append, List.mem_map] at h
  rcases h with h | ⟨d, _, hd⟩
  · revert h; decide
  · exact hexDigit_ne_slash d hd

/-- `plan_auto_<hex>` is a plain file name: no separator, not `..`, not absolute -/
theorem kindOf_rid (c : Config B) : kindOf c.rid = .plain := by
  have hs := slash_notin_rid c
  have hh : c.rid.head? = some 'p' := by simp [Config.rid, ridPrefix]
  have hd : c.rid ≠ ['.', '.'] := by
    intro e; rw [e] at hh; simp at hh
  unfold kindOf
  rw [comps_noslash _ hs, hh]
  simp [hs, hd]

theorem outPath_rid (c : Config B) (f : Fmt) : outPath c.pid c.rid f = .inDir c.pid (fileName c.rid f) := by
  simp [outPath, kindOf_rid]

/-- whatever else the engine generates, the file at the auto report's path is the auto report
    (it is generated last: the definition is appended to the text) -/
theorem engine_auto (env : Env B R) (v : Variant) (c : Config B) (b : B) (fs : FS B R) :
    applyOps fs (engineOps env v c.pid b c.rid c.fmt) (.inDir c.pid (fileName c.rid c.fmt))
      = some (.file (.report c.rid (env.autoBody b c.fmt))) := by
  unfold engineOps
  simp only [applyOps_append, applyOps_cons, applyOps_nil, outPath_rid]
  simp

/-- with `--report <auto id>` and an id no report of the text uses, the engine writes one file, below
    its output directory -/
theorem footprint_filtered (env : Env B R) (v : Variant) (c : Config B) (b : B) (hv : v.f18 = true)
    (hfresh : ∀ r ∈ env.reports b, r.id ≠ c.rid) : Footprint env v c.pid b c.rid c.fmt := by
  intro op hop
  unfold engineOps at hop
  simp only [List.mem_append, List.mem_flatMap, List.mem_singleton] at hop
  rcases hop with ⟨r, hr, hin⟩ | h
  · have := hfresh r hr
    simp [hv, this] at hin
  · exact ⟨fileName c.rid c.fmt, _, by rw [h, outPath_rid]⟩

/-- every report with a non-escaping name stays below the output directory, filtered or not -/
theorem footprint_plain_names (env : Env B R) (v : Variant) (c : Config B) (b : B)
    (hnames : ∀ r ∈ env.reports b, kindOf r.name ≠ .escaping) : Footprint env v c.pid b c.rid c.fmt := by
  intro op hop
  unfold engineOps at hop
  simp only [List.mem_append, List.mem_flatMap, List.mem_singleton] at hop
  rcases hop with ⟨r, hr, hin⟩ | h
  · have hk := hnames r hr
    split at hin
    · simp at hin
    · simp only [List.mem_map] at hin
      obtain ⟨g, _, rfl⟩ := hin
      have hp : outPath c.pid r.name g = .inDir c.pid (fileName r.name g) := by
        unfold outPath
        split <;> simp_all
      exact ⟨_, _, by rw [hp]⟩
  · exact ⟨fileName c.rid c.fmt, _, by rw [h, outPath_rid]⟩

theorem footprint_on {env : Env B R} {v : Variant} {pid : Nat} {b : B} {rid : Name} {f : Fmt}
    (hfp : Footprint env v pid b rid f) : ∀ op ∈ engineOps env v pid b rid f, OpOn pid .outDir op := by
  intro op hop
  obtain ⟨file, n, rfl⟩ := hfp op hop
  simp [OpOn, res]

theorem res_tp (c : Config B) (k : TmpKind) : res c.pid (tp c k) = some k := by simp [tp, res]

/-- the resource the statement at `pc` works on -/
def resAt : Pc → TmpKind
  | .stdinMk | .stdinWrite | .rmIn | .h2 _ => .stdinCopy
  | .autoA | .autoB | .autoC | .rmAuto | .h1 _ => .autoCopy
  | _ => .outDir

/-- The four outcomes of the `engine` statement.  A property of a step is proved there through this
    lemma: with the property a variable the case analysis is cheap, while `split` on the statement's
    conditionals inside a concrete goal is slow. -/
theorem stepCore_engine {P : Local B R × List (Op B R) → Prop} (env : Env B R) (v : Variant) (c : Config B)
    (l : Local B R) (w : View B R) (hpc : l.pc = .engine)
    (hgen : P (raise l .gen)) (hgap : P (raise l .gap)) (hsel : P (goto l .select))
    (hok : ∀ b, P ({ l with pc := .select }, engineOps env v c.pid b c.rid c.fmt)) :
    P (stepCore env v c l w) := by
  unfold stepCore
  rw [hpc]
  simp only
  by_cases h1 : c.fault = .engineRaise
  · rw [if_pos h1]; exact hgen
  rw [if_neg h1]
  by_cases h2 : c.fault = .engineNoOutput
  · rw [if_pos h2]; exact hsel
  rw [if_neg h2]
  split
  · split
    · exact hgap
    split
    · exact hok _
    · exact hgen
  · exact hgen

/-- every write operation of a step (stdout target, engine inside its footprint) is on one of the
    process's own resources: the one its statement is about -/
theorem stepCore_ops_owned (env : Env B R) (v : Variant) (c : Config B) (l : Local B R) (w : View B R)
    (hout : c.out = none) (hfp : ∀ b, Footprint env v c.pid b c.rid c.fmt) :
    ∀ op ∈ (stepCore env v c l w).2, OpOn c.pid (resAt l.pc) op := by
  obtain ⟨pc⟩ := l
  cases pc with
  | engine =>
    exact stepCore_engine (P := fun r => ∀ op ∈ r.2, OpOn c.pid .outDir op) env v c _ w rfl
      (List.forall_mem_nil _) (List.forall_mem_nil _) (List.forall_mem_nil _) fun b => footprint_on (hfp b)
  | emit =>
    simp only [stepCore, hout]
    (repeat' split) <;> exact List.forall_mem_nil _
  | _ =>
    dsimp only [stepCore]
    (repeat' split) <;> first | exact List.forall_mem_nil _ | simp [OpOn, resAt, res_tp]

theorem step_frame (env : Env B R) (v : Variant) (c : Config B) (l : Local B R) (fs : FS B R)
    (hout : c.out = none) (hfp : ∀ b, Footprint env v c.pid b c.rid c.fmt) {p : Path}
    (hp : owns c.pid p = false) : (step env v c (l, fs)).2 p = fs p := by
  have hr : res c.pid p = none := by simpa [owns_eq_res] using hp
  exact applyOps_other (stepCore_ops_owned env v c l _ hout hfp) fs (by simp [hr])

/-- two file systems that agree on everything process `c.pid` may look at -/
def Agree (c : Config B) (fs fs' : FS B R) : Prop :=
  ∀ p, (owns c.pid p = true ∨ p = c.inPath) → fs p = fs' p

theorem viewOf_congr (c : Config B) {fs fs' : FS B R} (hout : c.out = none) (h : Agree c fs fs') :
    viewOf c fs = viewOf c fs' := by
  unfold viewOf
  have h1 : fs c.inPath = fs' c.inPath := h _ (Or.inr rfl)
  have h2 : (fun k => fs (.tmp c.pid k)) = (fun k => fs' (.tmp c.pid k)) := by
    funext k; exact h _ (Or.inl (by simp [owns]))
  have h3 : (fun f => fs (.inDir c.pid f)) = (fun f => fs' (.inDir c.pid f)) := by
    funext f; exact h _ (Or.inl (by simp [owns]))
  simp [h1, h2, h3, hout]

theorem step_congr (env : Env B R) (v : Variant) (c : Config B) (l : Local B R) {fs fs' : FS B R}
    (hout : c.out = none) (h : Agree c fs fs') :
    (step env v c (l, fs)).1 = (step env v c (l, fs')).1 ∧
    Agree c (step env v c (l, fs)).2 (step env v c (l, fs')).2 := by
  have hv := viewOf_congr c hout h
  refine ⟨by simp [step, hv], ?_⟩
  intro p hp
  simp only [step, hv]
  exact applyOps_pointwise _ (h p hp)

theorem iter_succ (env : Env B R) (v : Variant) (c : Config B) (n : Nat) (s : Local B R × FS B R) :
    iter env v c (n + 1) s = step env v c (iter env v c n s) := rfl

theorem iter_add (env : Env B R) (v : Variant) (c : Config B) (m n : Nat) (s : Local B R × FS B R) :
    iter env v c (m + n) s = iter env v c n (iter env v c m s) := by
  induction n with
  | zero => rfl
  | succ n ih => rw [← Nat.add_assoc, iter_succ, ih, iter_succ]

theorem step_exited (env : Env B R) (v : Variant) (c : Config B) (s : Local B R × FS B R)
    (h : s.1.pc = .exited) : step env v c s = s := by
  obtain ⟨l, fs⟩ := s
  cases l
  simp_all [step, stepCore]

theorem iter_exited (env : Env B R) (v : Variant) (c : Config B) (n : Nat) (s : Local B R × FS B R)
    (h : s.1.pc = .exited) : iter env v c n s = s := by
  induction n with
  | zero => rfl
  | succ n ih => rw [iter_succ, ih, step_exited _ _ _ _ h]

end SP.Cli
