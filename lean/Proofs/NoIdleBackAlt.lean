import Proofs.NoIdleBack
import Proofs.FrameAlt
/-!
C08, backward mode, for tasks with an alternative: on the candidate chosen at the first slot no working, unbooked slot within
the limits is left between the end of the task and its deadline, and the task ends by its deadline.
-/
namespace SP

/-- a backward effort task with one primary and one alternative resource, both leaves -/
structure EligAltB (e : Env) (t r1 r2 : Nat) : Prop where
  el : EligAlt e t r1 r2
  leaf1 : (e.resD r1).leaf = true
  leaf2 : (e.resD r2).leaf = true

def DoneIdleBAlt (e : Env) (σ0 σ : St) : Prop :=
  ∀ t r1 r2, EligAltB e t r1 r2 → (σ.tst t).done = true → (σ.tst t).forward = false →
    ((σ0.tst t).stop = none → Settled e σ t) ∧
    (∃ v, (σ.tst t).stop = some v ∧ v ≤ deadlineG e σ0 σ t) ∧
    ∃ r, (r = r1 ∨ r = r2) ∧ (∃ L, usageOf (σ.led.get r L).usage t ≠ none) ∧ NoIdleBackAt e σ0 σ t r

structure BIdleInvA (e : Env) (σ0 σ : St) (tasks : List Nat) : Prop where
  base : BIdleInv e σ0 σ tasks
  okA : DoneIdleBAlt e σ0 σ

theorem bIdleInvA_step {e : Env} (wf : WF e) {σ0 σ : St} {tasks : List Nat} {t0 : Nat} (hA : BIdleInvA e σ0 σ tasks)
    (hmem : t0 ∈ tasks) (hready : ready e σ t0 = true) :
    BIdleInvA e σ0 (updateContainers e (scheduleTask e σ t0).1) (tasks.erase t0) := by
  have h := hA.base
  refine ⟨bIdleInv_step wf h hmem hready, fun t r1 r2 hel hd hfw => ?_⟩
  by_cases heq : t = t0
  · subst heq
    obtain ⟨hfw0, hok, hst, hend, hdl⟩ := bIdle_round_self wf h hmem hready hel.el.effort hd hfw
    obtain ⟨-, -, hnd0, hclean0⟩ := h.pending t hmem
    -- whichever candidate the first slot chose, the task is booked on it and leaves no idle slot on it
    have key : ∀ r, (e.resD r).leaf = true → r ∈ (e.taskD t).alloc ++ (e.taskD t).alt →
        selectBest e (σ.setT t (σ.tst t)) [r1] [r2] (e.taskD t).effort (initCursor e σ t).1 = [r] →
        (∃ L, usageOf ((updateContainers e (scheduleTask e σ t).1).led.get r L).usage t ≠ none) ∧
        NoIdleBackAt e σ0 (updateContainers e (scheduleTask e σ t).1) t r := by
      intro r hrl hrm hsr
      have hsel1 : selectBest e (σ.setT t (σ.tst t)) (e.taskD t).alloc (e.taskD t).alt (e.taskD t).effort
          (initCursor e σ t).1 = [r] := by rw [hel.el.prim, hel.el.alt]; exact hsr
      obtain ⟨fb, _, _, hfb, _⟩ := scheduleTask_framed_back_sel e wf σ t r h.inv hel.el.leaf hel.el.alloc hel.el.nomile
        hel.el.effort hsel1 (h.inrange t hmem) hfw0 hnd0 (hclean0 r) hok
      exact ⟨⟨fb, by rw [updateContainers_led]; exact hfb⟩,
        NoIdleBackAt.of_bound (fun P hc => closed_updateContainers hc _) (SameEntries.of_led (updateContainers_led e _))
          (by rw [hdl])
          (scheduleTaskB_no_idle_deadline_sel e wf σ t r h.inv h.solid hel.el.leaf hel.el.alloc hel.el.nomile hel.el.effort
            (by rw [walkStart_alloc e σ t hel.el.alloc]; exact hsel1)
            hfw0 hnd0 (hclean0 r) hrl hrm hok)⟩
    rcases selectBest_alt e (σ.setT t (σ.tst t)) r1 r2 (e.taskD t).effort (initCursor e σ t).1 with hs | hs
    · exact ⟨hst, hend, r1, Or.inl rfl, key r1 hel.leaf1 (by rw [hel.el.prim]; simp) hs⟩
    · exact ⟨hst, hend, r2, Or.inr rfl, key r2 hel.leaf2 (by rw [hel.el.alt]; simp) hs⟩
  · obtain ⟨hts, hse⟩ := round_other e σ t0 t hel.el.leaf heq
    rw [hts] at hd hfw
    obtain ⟨hst, hend, r, hr, ⟨L0, hL0⟩, hidle⟩ := hA.okA t r1 r2 hel hd hfw
    obtain ⟨hst', hend', hdl⟩ := ends_keep (bIdle_round_scheduled h hmem) (by rw [hts]) hst hend
    exact ⟨hst', hend', r, hr, ⟨L0, by rw [hse r L0]; exact hL0⟩,
      NoIdleBackAt.of_bound (bIdle_round_closed wf h hmem) hse (by rw [hdl]) hidle⟩

/-- **C08, backward mode, with an alternative, end to end.**  After scheduling any well-formed project: every completed
    backward (ALAP) effort task `t` with one primary and one alternative resource (both leaves) ends by its deadline, is booked
    on ONE of its two candidates, and on that one, between any slot `L` in which it is booked and the last slot before its
    deadline, every slot in which the resource is on shift and not on leave carries an entry in the final ledger, unless a limit
    refuses it. -/
theorem runScenario_doneIdleBAlt (e : Env) (wf : WF e) (tr : Tree e) : DoneIdleBAlt e (loopStart e) (runScenario e) := by
  obtain ⟨rest, -, h⟩ := scenario_induct (I := fun tasks _ σ => BIdleInvA e (loopStart e) σ tasks)
    (fun tasks _ σ t0 h hf => bIdleInvA_step wf h (List.mem_of_find?_eq_some hf) (by simpa using List.find?_some hf))
    (fun _ _ _ w h => ⟨h.base.warn w, h.okA⟩)
    ⟨bIdleInv_loopStart e wf, fun t _ _ _ hd => absurd hd (by rw [loopStart_done]; exact Bool.noConfusion)⟩
  intro t r1 r2 hel hd hfw
  rw [runScenario_leafT e t hel.el.leaf] at hd hfw
  obtain ⟨hst, hend, r, hr, ⟨L0, hL0⟩, hidle⟩ := h.okA t r1 r2 hel hd hfw
  obtain ⟨hst', hend', hdl⟩ := ends_keep (finishScenario_fix e tr)
    (by rw [runScenario_leafT e t hel.el.leaf]) hst hend
  exact ⟨hst', hend', r, hr, ⟨L0, by unfold runScenario; rw [finishScenario_led]; exact hL0⟩,
    NoIdleBackAt.of_bound (fun P hc => closed_finishScenario hc _) (SameEntries.of_led (finishScenario_led e _))
      (by rw [hdl]) hidle⟩

end SP
