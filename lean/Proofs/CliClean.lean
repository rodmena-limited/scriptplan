import Model.Cli
import Proofs.Cli
/-!
The cleanup invariant of `plan report` (used by C20 `no_leftover`).  The process has three resources
(`TmpKind`: the stdin copy, the auto copy, the output directory with its contents); `todo pc` lists
those whose conditional removal is still ahead of `pc`, on the success path and in every `except`
handler.  `Clean`: whatever differs from the initial file system belongs to a resource whose flag is
set and whose removal is ahead.  `Clean.step` is the one preservation argument; `clean_stepCore` says
which of its forms (`quiet`, `write`, `remove`, `unlink`) each statement is.
Also: termination within `fuel` steps (`run_exited`) and the ghost-trace bookkeeping.
-/
namespace SP.Cli
variable {B R : Type}

def Fresh (pid : Nat) (fs0 : FS B R) : Prop := ∀ p, owns pid p = true → fs0 p = none

/-- `stdin_temp_file` / `temp_file` / `temp_output_dir` is not None -/
def flag (l : Local B R) : TmpKind → Bool
  | .stdinCopy => l.finSet
  | .autoCopy => l.fautoSet
  | .outDir => l.dirSet

/-- the resources whose (conditional) removal is still ahead of `pc`, in the order in which the
    success path and the `except` handlers remove them -/
def todo : Pc → List TmpKind
  | .rmAuto => [.autoCopy, .stdinCopy]
  | .rmIn => [.stdinCopy]
  | .h1 _ => [.autoCopy, .stdinCopy, .outDir]
  | .h2 _ => [.stdinCopy, .outDir]
  | .h3 _ => [.outDir]
  | .exited => []
  | _ => [.outDir, .autoCopy, .stdinCopy]

/-- the flag that is certainly set at `pc`: a later statement writes to the resource again -/
def known : Pc → Option TmpKind
  | .stdinWrite => some .stdinCopy
  | .autoA | .autoB | .autoC | .engine => some .outDir
  | _ => none

/-- resource `k` may exist: its flag is set and its removal is ahead — or it is the still empty
    `plan_auto_*.tjp`, which `autoC` either fills (setting the flag) or unlinks (F43) -/
def may (l : Local B R) (k : TmpKind) : Prop :=
  (flag l k = true ∧ k ∈ todo l.pc) ∨ (k = .autoCopy ∧ l.pc = .autoC)

/-- the cleanup invariant: whatever differs from the initial file system is a resource that may exist -/
structure Clean (c : Config B) (fs0 : FS B R) (s : Local B R × FS B R) : Prop where
  fs : ∀ p, s.2 p = fs0 p ∨ ∃ k, res c.pid p = some k ∧ may s.1 k
  flags : ∀ k, known s.1.pc = some k → flag s.1 k = true

/-- the operation by which `plan` removes resource `k` -/
def rm (c : Config B) : TmpKind → Op B R
  | .outDir => .rmtree c.pid
  | k => .del (tp c k)

theorem rm_on (c : Config B) (k : TmpKind) : OpOn c.pid k (rm c k : Op B R) := by
  cases k <;> simp [rm, OpOn, res_tp]

theorem rm_apply (c : Config B) (fs : FS B R) {k : TmpKind} {p : Path} (hp : res c.pid p = some k) :
    (rm c k : Op B R).apply fs p = none := by
  cases k
  case outDir => exact if_pos (inTree_iff_res.mpr hp)
  all_goals
    cases p <;> simp [res] at hp
    obtain ⟨rfl, rfl⟩ := hp
    simp [rm, tp]

theorem mem_todo {pc : Pc} (hb : (todo pc).length = 3) (k : TmpKind) : k ∈ todo pc := by
  have h : todo pc = todo .start ∨ todo pc = todo (.h1 .gap) := by
    cases pc with
    | rmAuto | rmIn | h2 | h3 | exited => cases hb
    | h1 => exact .inr rfl
    | _ => exact .inl rfl
  rcases h with h | h <;> rw [h] <;> cases k <;> decide

theorem may_forward {l l' : Local B R} (hb : (todo l'.pc).length = 3)
    (hfl : ∀ j, flag l j = true → flag l' j = true) {j : TmpKind} (hj : l.pc = .autoC → j ≠ .autoCopy) :
    may l j → may l' j
  | .inl ⟨h1, _⟩ => .inl ⟨hfl j h1, mem_todo hb j⟩
  | .inr ⟨h1, h2⟩ => absurd h1 (hj h2)

/-- The invariant survives a step that works on one resource `k`, provided that afterwards `k` may
    exist, or the step has removed it, or did nothing; and that no other resource loses its title. -/
theorem Clean.step {c : Config B} {fs0 fs : FS B R} {l l' : Local B R} {ops : List (Op B R)}
    (h : Clean c fs0 (l, fs)) (hfresh : Fresh c.pid fs0) (k : TmpKind)
    (hon : ∀ op ∈ ops, OpOn c.pid k op)
    (hk : may l' k ∨ ops = [rm c k] ∨ (ops = [] ∧ (may l k → may l' k)))
    (hmono : ∀ j, j ≠ k → may l j → may l' j)
    (hkn : ∀ j, known l'.pc = some j → flag l' j = true) : Clean c fs0 (l', applyOps fs ops) where
  flags := hkn
  fs := fun p => by
    show applyOps fs ops p = fs0 p ∨ ∃ k, res c.pid p = some k ∧ may l' k
    by_cases hp : res c.pid p = some k
    · rcases hk with hk | rfl | ⟨rfl, hk⟩
      · exact .inr ⟨k, hp, hk⟩
      · refine .inl ?_
        rw [hfresh p (by rw [owns_eq_res, hp]; rfl)]
        exact rm_apply c fs hp
      · rcases h.fs p with e | ⟨j, hj, hm⟩
        · exact .inl e
        · exact .inr ⟨k, hp, hk (Option.some.inj (hj.symm.trans hp) ▸ hm)⟩
    · rw [applyOps_other hon fs hp]
      rcases h.fs p with e | ⟨j, hj, hm⟩
      · exact .inl e
      · exact .inr ⟨j, hj, hmono j (fun e => hp (e ▸ hj)) hm⟩

variable {c : Config B} {fs0 fs : FS B R} {l l' : Local B R}

/-- a statement that writes nothing and leaves control ahead of all cleanup -/
theorem Clean.quiet (h : Clean c fs0 (l, fs)) (hfresh : Fresh c.pid fs0) (hb : (todo l'.pc).length = 3)
    (hne : l.pc ≠ .autoC) (hfl : flag l' = flag l) (hkn : known l'.pc = none ∨ known l'.pc = known l.pc) :
    Clean c fs0 (l', applyOps fs []) :=
  have hm := fun j => may_forward (l := l) (l' := l') (j := j) hb (fun _ => by rw [hfl]; exact id) (absurd · hne)
  h.step hfresh .outDir (List.forall_mem_nil _) (.inr (.inr ⟨rfl, hm _⟩)) (fun j _ => hm j) fun j hj => by
    rcases hkn with e | e
    · rw [e] at hj; cases hj
    · rw [hfl]; exact h.flags j (e ▸ hj)

theorem set_on (c : Config B) (k : TmpKind) (n : Node B R) : ∀ op ∈ [Op.set (tp c k) n], OpOn c.pid k op := by
  simp [OpOn, res_tp]

/-- a statement that writes to resource `k`, after which `k` may exist -/
theorem Clean.write {ops : List (Op B R)} (h : Clean c fs0 (l, fs)) (hfresh : Fresh c.pid fs0) (k : TmpKind)
    (hon : ∀ op ∈ ops, OpOn c.pid k op) (hb : (todo l'.pc).length = 3) (hne : l.pc = .autoC → k = .autoCopy)
    (hfl : ∀ j, flag l j = true → flag l' j = true) (hk : may l' k)
    (hkn : ∀ j, known l'.pc = some j → flag l' j = true) : Clean c fs0 (l', applyOps fs ops) :=
  h.step hfresh k hon (.inl hk) (fun _ hj => may_forward hb hfl fun e => hne e ▸ hj) hkn

/-- F43: a way out of `autoC` that does not hand the name to `report` unlinks the file -/
theorem Clean.unlink (h : Clean c fs0 (l, fs)) (hfresh : Fresh c.pid fs0) (hb : (todo l'.pc).length = 3)
    (hfl : flag l' = flag l) (hkn : known l'.pc = none) :
    Clean c fs0 (l', applyOps fs [.del (tp c .autoCopy)]) :=
  h.step hfresh .autoCopy (by simp [OpOn, res_tp]) (.inr (.inl rfl))
    (fun j hj => may_forward hb (fun _ => by rw [hfl]; exact id) fun _ => hj) (fun j hj => by rw [hkn] at hj; cases hj)

/-- a cleanup statement: `if <flag of k>: remove k`, where `k` is next in line -/
theorem Clean.remove (h : Clean c fs0 (l, fs)) (hfresh : Fresh c.pid fs0) (k : TmpKind)
    (htodo : todo l.pc = k :: todo l'.pc) (hne : l.pc ≠ .autoC) (hfl : flag l' = flag l)
    (hkn : known l'.pc = none) :
    Clean c fs0 (l', applyOps fs (if flag l k = true then [rm c k] else [])) := by
  refine h.step hfresh k ?_ ?_ ?_ (fun j hj => by rw [hkn] at hj; cases hj)
  · intro op hop
    split at hop
    · rw [List.mem_singleton.mp hop]; exact rm_on c k
    · cases hop
  · split
    · exact .inr (.inl rfl)
    · refine .inr (.inr ⟨rfl, fun hm => ?_⟩)
      rcases hm with ⟨h1, _⟩ | ⟨_, h2⟩
      · contradiction
      · exact absurd h2 hne
  · rintro j hj (⟨h1, h2⟩ | ⟨_, h2⟩)
    · rw [htodo] at h2
      exact .inl ⟨by rw [hfl]; exact h1, (List.mem_cons.mp h2).resolve_left hj⟩
    · exact absurd h2 hne

theorem Clean.congr (h : Clean c fs0 (l, fs)) (hpc : l'.pc = l.pc) (hfl : flag l' = flag l) :
    Clean c fs0 (l', fs) := by
  refine ⟨fun p => (h.fs p).imp_right fun ⟨k, hk, hm⟩ => ⟨k, hk, ?_⟩, fun k hk => ?_⟩
  · show flag l' k = true
    rw [hfl]; exact h.flags k (hpc ▸ hk)
  · show (flag l' k = true ∧ k ∈ todo l'.pc) ∨ (k = .autoCopy ∧ l'.pc = .autoC)
    rw [hpc, hfl]; exact hm

theorem clean_stepCore (env : Env B R) (v : Variant) (c : Config B) (fs0 fs : FS B R) (l : Local B R)
    (hv : v.f43 = true) (hout : c.out = none) (hfp : ∀ b, Footprint env v c.pid b c.rid c.fmt)
    (hfresh : Fresh c.pid fs0) (h : Clean c fs0 (l, fs)) (w : View B R) :
    Clean c fs0 ((stepCore env v c l w).1, applyOps fs (stepCore env v c l w).2) := by
  obtain ⟨pc⟩ := l
  cases pc with
  | start | validate | hash | select | readRep | emit =>
    simp only [stepCore, hout]
    repeat' split
    all_goals exact h.quiet hfresh rfl nofun rfl (.inl rfl)
  | rmOut | h3 e => refine h.remove hfresh .outDir ?_ nofun ?_ ?_ <;> rfl
  | rmAuto | h1 e => refine h.remove hfresh .autoCopy ?_ nofun ?_ ?_ <;> rfl
  | rmIn | h2 e => refine h.remove hfresh .stdinCopy ?_ nofun ?_ ?_ <;> rfl
  | exited => simpa only [stepCore, applyOps_nil] using h
  | stdinMk =>
    dsimp only [stepCore]
    split
    · exact h.quiet hfresh rfl nofun rfl (.inl rfl)
    · exact h.write hfresh .stdinCopy (set_on _ _ _) rfl nofun (fun j hj => by cases j <;> first | exact hj | rfl)
        (.inl ⟨rfl, by simp [todo]⟩) (by rintro _ ⟨⟩; rfl)
  | stdinWrite =>
    dsimp only [stepCore]
    split
    · exact h.quiet hfresh rfl nofun rfl (.inl rfl)
    · exact h.write hfresh .stdinCopy (set_on _ _ _) rfl nofun (fun _ => id) (.inl ⟨h.flags _ rfl, by simp [todo]⟩) nofun
  | mkOutDir =>
    dsimp only [stepCore]
    split
    · exact h.quiet hfresh rfl nofun rfl (.inl rfl)
    · exact h.write hfresh .outDir (set_on _ _ _) rfl nofun (fun j hj => by cases j <;> first | exact hj | rfl)
        (.inl ⟨rfl, by simp [todo]⟩) (by rintro _ ⟨⟩; rfl)
  | autoA =>
    simp only [stepCore, hv, ↓reduceIte]
    repeat' split
    · exact h.quiet hfresh rfl nofun rfl (.inl rfl)
    · exact h.quiet hfresh rfl nofun rfl (.inr rfl)
    · exact h.quiet hfresh rfl nofun rfl (.inl rfl)
    · exact h.quiet hfresh rfl nofun rfl (.inl rfl)
  | autoB =>
    simp only [stepCore, hv, ↓reduceIte]
    split
    · exact h.quiet hfresh rfl nofun rfl (.inl rfl)
    · exact h.write hfresh .autoCopy (set_on _ _ _) rfl nofun (fun _ => id) (.inr ⟨rfl, rfl⟩) h.flags
  | autoC =>
    simp only [stepCore, hv, ↓reduceIte]
    repeat' split
    · exact h.unlink hfresh rfl rfl rfl
    · exact h.unlink hfresh rfl rfl rfl
    · exact h.write hfresh .autoCopy (set_on _ _ _) rfl (fun _ => rfl) (fun j hj => by cases j <;> first | exact hj | rfl)
        (.inl ⟨rfl, by simp [todo]⟩) (by rintro _ ⟨⟩; exact h.flags _ rfl)
  | engine =>
    exact stepCore_engine (P := fun r => Clean c fs0 (r.1, applyOps fs r.2)) env v c _ w rfl
      (h.quiet hfresh rfl nofun rfl (.inl rfl)) (h.quiet hfresh rfl nofun rfl (.inl rfl)) (h.quiet hfresh rfl nofun rfl (.inl rfl))
      fun b => h.write hfresh .outDir (footprint_on (hfp b)) rfl nofun (fun _ => id)
        (.inl ⟨h.flags _ rfl, by simp [todo]⟩) nofun

theorem clean_step (env : Env B R) (v : Variant) (c : Config B) (fs0 : FS B R) (s : Local B R × FS B R)
    (hv : v.f43 = true) (hout : c.out = none) (hfp : ∀ b, Footprint env v c.pid b c.rid c.fmt)
    (hfresh : Fresh c.pid fs0) (h : Clean c fs0 s) : Clean c fs0 (step env v c s) :=
  (clean_stepCore env v c fs0 s.2 s.1 hv hout hfp hfresh h _).congr rfl rfl

theorem clean_init (c : Config B) (fs0 : FS B R) : Clean c fs0 ({}, fs0) :=
  ⟨fun _ => .inl rfl, nofun⟩

theorem clean_iter (env : Env B R) (v : Variant) (c : Config B) (fs0 : FS B R)
    (hv : v.f43 = true) (hout : c.out = none) (hfp : ∀ b, Footprint env v c.pid b c.rid c.fmt)
    (hfresh : Fresh c.pid fs0) (n : Nat) : Clean c fs0 (iter env v c n ({}, fs0)) := by
  induction n with
  | zero => exact clean_init c fs0
  | succ n ih => exact clean_step env v c fs0 _ hv hout hfp hfresh ih

theorem clean_exited (c : Config B) (fs0 : FS B R) (s : Local B R × FS B R)
    (h : Clean c fs0 s) (hx : s.1.pc = .exited) : ∀ p, s.2 p = fs0 p := fun p =>
  (h.fs p).resolve_right fun ⟨k, _, hm⟩ => by
    unfold may at hm
    rw [hx] at hm
    simp [todo] at hm

def rank : Pc → Nat
  | .start => 19 | .stdinMk => 18 | .stdinWrite => 17 | .validate => 17 | .hash => 16 | .mkOutDir => 15
  | .autoA => 14 | .autoB => 13 | .autoC => 12 | .engine => 11 | .select => 10 | .readRep => 9 | .emit => 8
  | .rmOut => 7 | .rmAuto => 6 | .rmIn => 5 | .h1 _ => 3 | .h2 _ => 2 | .h3 _ => 1 | .exited => 0

/-- a step moves control forward and leaves the ghost trace to `step` -/
theorem stepCore_local (env : Env B R) (v : Variant) (c : Config B) (l : Local B R) (w : View B R) :
    rank (stepCore env v c l w).1.pc ≤ rank l.pc - 1 ∧ (stepCore env v c l w).1.trace = l.trace := by
  obtain ⟨pc⟩ := l
  cases pc with
  | engine =>
    exact stepCore_engine (P := fun r => rank r.1.pc ≤ rank .engine - 1 ∧ r.1.trace = _) env v c _ w rfl
      ⟨Nat.le_of_ble_eq_true rfl, rfl⟩ ⟨Nat.le_of_ble_eq_true rfl, rfl⟩ ⟨Nat.le_of_ble_eq_true rfl, rfl⟩
      fun _ => ⟨Nat.le_of_ble_eq_true rfl, rfl⟩
  | _ =>
    dsimp only [stepCore]
    (repeat' split) <;> exact ⟨Nat.le_of_ble_eq_true rfl, rfl⟩

theorem rank_step (env : Env B R) (v : Variant) (c : Config B) (s : Local B R × FS B R) :
    rank (step env v c s).1.pc ≤ rank s.1.pc - 1 :=
  (stepCore_local env v c s.1 _).1

theorem rank_iter (env : Env B R) (v : Variant) (c : Config B) (n : Nat) (s : Local B R × FS B R) :
    rank (iter env v c n s).1.pc ≤ rank s.1.pc - n := by
  induction n with
  | zero => simp [iter]
  | succ n ih =>
    have := rank_step env v c (iter env v c n s)
    rw [iter_succ]; omega

/-- every run is over within `fuel` steps, whatever the input and the fault -/
theorem run_exited (env : Env B R) (v : Variant) (c : Config B) (fs : FS B R) :
    (run env v c fs).1.pc = .exited := by
  have h := rank_iter env v c fuel ({}, fs)
  have h0 : rank (run env v c fs).1.pc = 0 := by
    have : rank (({} : Local B R), fs).1.pc = 19 := rfl
    simp only [run]; rw [this] at h; simp only [fuel] at h ⊢; omega
  revert h0
  cases (run env v c fs).1.pc <;> simp [rank]

theorem stepCore_trace (env : Env B R) (v : Variant) (c : Config B) (l : Local B R) (w : View B R) :
    (stepCore env v c l w).1.trace = l.trace :=
  (stepCore_local env v c l w).2

theorem trace_applied (env : Env B R) (v : Variant) (c : Config B) (fs0 : FS B R) (n : Nat) :
    (iter env v c n ({}, fs0)).2 = applyOps fs0 (iter env v c n ({}, fs0)).1.trace := by
  induction n with
  | zero => rfl
  | succ n ih =>
    rw [iter_succ]
    simp only [step]
    rw [applyOps_append, stepCore_trace, ← ih]

theorem trace_owned (env : Env B R) (v : Variant) (c : Config B) (fs0 : FS B R)
    (hout : c.out = none) (hfp : ∀ b, Footprint env v c.pid b c.rid c.fmt) (n : Nat) :
    ∀ op ∈ (iter env v c n ({}, fs0)).1.trace, ∃ k, OpOn c.pid k op := by
  induction n with
  | zero => intro op h; simp [iter] at h
  | succ n ih =>
    intro op h
    rw [iter_succ] at h
    simp only [step, List.mem_append, stepCore_trace] at h
    rcases h with h | h
    · exact ih op h
    · exact ⟨_, stepCore_ops_owned env v c _ _ hout hfp op h⟩

theorem leftoverStep_exists (fs : FS B R) (acc : List Path) (op : Op B R)
    (h : ∀ p ∈ acc, fs p ≠ none) : ∀ p ∈ leftoverStep acc op, op.apply fs p ≠ none := by
  intro p hp
  cases op with
  | set q n =>
    simp only [leftoverStep] at hp
    by_cases hpq : p = q
    · simp [hpq]
    · have : p ∈ acc := by
        split at hp
        · exact hp
        · simpa [hpq] using hp
      simp [hpq, h p this]
  | del q =>
    simp only [leftoverStep, List.mem_filter, decide_eq_true_eq] at hp
    simp [hp.2, h p hp.1]
  | rmtree pid =>
    simp only [leftoverStep, List.mem_filter, Bool.not_eq_true'] at hp
    simp [hp.2, h p hp.1]

theorem leftover_exists_aux (tr : List (Op B R)) : ∀ (fs : FS B R) (acc : List Path),
    (∀ p ∈ acc, fs p ≠ none) → ∀ p ∈ tr.foldl leftoverStep acc, applyOps fs tr p ≠ none := by
  induction tr with
  | nil => intro fs acc h p hp; exact h p hp
  | cons op tr ih =>
    intro fs acc h p hp
    rw [applyOps_cons]
    exact ih (op.apply fs) (leftoverStep acc op) (leftoverStep_exists fs acc op h) p hp

theorem leftover_exists (fs : FS B R) (tr : List (Op B R)) (p : Path) (h : p ∈ leftover tr) :
    applyOps fs tr p ≠ none :=
  leftover_exists_aux tr fs [] (fun _ hp => by simp at hp) p h

theorem leftover_was_set_aux (tr : List (Op B R)) : ∀ (acc : List Path),
    ∀ p ∈ tr.foldl leftoverStep acc, p ∈ acc ∨ ∃ n, Op.set p n ∈ tr := by
  induction tr with
  | nil => intro acc p hp; exact Or.inl hp
  | cons op tr ih =>
    intro acc p hp
    rcases ih (leftoverStep acc op) p hp with h | ⟨n, hn⟩
    · cases op with
      | set q m =>
        simp only [leftoverStep] at h
        split at h
        · exact Or.inl h
        · simp only [List.mem_append, List.mem_singleton] at h
          rcases h with h | h
          · exact Or.inl h
          · exact Or.inr ⟨m, by simp [h]⟩
      | del q => simp only [leftoverStep, List.mem_filter] at h; exact Or.inl h.1
      | rmtree pid => simp only [leftoverStep, List.mem_filter] at h; exact Or.inl h.1
    · exact Or.inr ⟨n, by simp [hn]⟩

theorem leftover_was_set (tr : List (Op B R)) (p : Path) (h : p ∈ leftover tr) :
    ∃ n, Op.set p n ∈ tr := by
  rcases leftover_was_set_aux tr [] p h with h | h
  · simp at h
  · exact h

theorem run_trace_applied (env : Env B R) (v : Variant) (c : Config B) (fs0 : FS B R) :
    (run env v c fs0).2 = applyOps fs0 (run env v c fs0).1.trace := by
  unfold run; exact trace_applied env v c fs0 fuel

theorem run_trace_owned (env : Env B R) (v : Variant) (c : Config B) (fs0 : FS B R)
    (hout : c.out = none) (hfp : ∀ b, Footprint env v c.pid b c.rid c.fmt) :
    ∀ op ∈ (run env v c fs0).1.trace, ∃ k, OpOn c.pid k op := by
  unfold run; exact trace_owned env v c fs0 hout hfp fuel

theorem clean_run (env : Env B R) (v : Variant) (c : Config B) (fs0 : FS B R)
    (hv : v.f43 = true) (hout : c.out = none) (hfp : ∀ b, Footprint env v c.pid b c.rid c.fmt)
    (hfresh : Fresh c.pid fs0) : Clean c fs0 (run env v c fs0) := by
  unfold run; exact clean_iter env v c fs0 hv hout hfp hfresh fuel

end SP.Cli
