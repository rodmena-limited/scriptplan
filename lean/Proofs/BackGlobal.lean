import Proofs.Deadline
import Proofs.EffortGlobal
/-!
C04 for whole scenarios, backward mode: every completed backward effort task whose deadline comes from its successors ends
at or before `start(s) − gap` of every successor `s`.
-/
namespace SP

/-- every completed backward effort task that had no end of its own when the loop started ends at or before the start of
    each of its successors minus the gap the successor asks for; and every successor is scheduled -/
def BackOK (e : Env) (σ0 σ : St) : Prop :=
  ∀ t, EffLeaf e t → (σ0.tst t).stop = none → (σ.tst t).done = true → (σ.tst t).forward = false →
    ∀ s ∈ successors e t,
      (σ.tst s).scheduled = true ∧
      ∀ ss v, (σ.tst s).start = some ss → (σ.tst t).stop = some v → v + succGap e t s ≤ ss

/-- loop invariant: `σ0` is the state at the start of the loop -/
structure BackInv (e : Env) (σ0 σ : St) (tasks : List Nat) : Prop where
  nodup : tasks.Nodup
  leaf : ∀ t ∈ tasks, (e.taskD t).leaf = true
  inrange : ∀ t ∈ tasks, t < σ.ts.size
  pending : ∀ t ∈ tasks, σ.tst t = σ0.tst t ∧ (σ.tst t).scheduled = false ∧ (σ.tst t).done = false
  ok : BackOK e σ0 σ

theorem successors_leaf (e : Env) (t s : Nat) (h : s ∈ successors e t) : (e.taskD s).leaf = true := by
  unfold successors at h
  simp only [List.mem_filter, Bool.and_eq_true] at h
  exact h.2.1.1

theorem alapReady_successors (e : Env) (σ : St) (t : Nat) (hf : (σ.tst t).forward = false)
    (hns : (σ.tst t).stop = none) (hr : ready e σ t = true) :
    ∀ s ∈ successors e t, (σ.tst s).scheduled = true := by
  unfold ready at hr
  simp only [hf, Bool.false_eq_true, if_false] at hr
  unfold alapReady at hr
  simp only [hns, Option.isSome_none, Bool.false_eq_true, if_false] at hr
  split at hr
  · exact Bool.noConfusion hr
  · simpa [List.all_eq_true] using hr

theorem backInv_step (e : Env) (wf : WF e) (σ0 σ : St) (tasks : List Nat) (t0 : Nat) (h : BackInv e σ0 σ tasks)
    (hmem : t0 ∈ tasks) (hready : ready e σ t0 = true) :
    BackInv e σ0 (updateContainers e (scheduleTask e σ t0).1) (tasks.erase t0) := by
  obtain ⟨heq0, hus0, hnd0⟩ := h.pending t0 hmem
  obtain ⟨hnd', hlf', hsz, hrest⟩ := round_rest e σ tasks t0 h.nodup h.leaf
  refine ⟨hnd', hlf', fun t ht => by rw [hsz]; exact h.inrange t (hrest t ht).1,
    fun t ht => by rw [(hrest t ht).2.1]; exact h.pending t (hrest t ht).1, fun t hel hns hd hfw s hs => ?_⟩
  -- against the successor's start in `σ`: by the deadline for `t0`, by the invariant for the others
  have key : (σ.tst s).scheduled = true ∧ ∀ ss v, (σ.tst s).start = some ss →
      ((updateContainers e (scheduleTask e σ t0).1).tst t).stop = some v → v + succGap e t s ≤ ss := by
    by_cases heq : t = t0
    · subst heq
      rw [updateContainers_leaf e _ t hel.1] at hd hfw ⊢
      rw [scheduleTask_self_forward] at hfw
      have hns' : (σ.tst t).stop = none := by rw [heq0]; exact hns
      obtain ⟨v0, hv0, hle0⟩ := scheduleTask_stop_le e wf σ t (h.inrange t hmem) hfw hel.2.1 hnd0
        (scheduleTask_done e σ t hnd0 hd)
      refine ⟨alapReady_successors e σ t hfw hns' hready s hs, fun ss v hss hv => ?_⟩
      have hd1 : deadlineOf e σ t = latestEnd e σ t := by unfold deadlineOf; rw [hns']
      have := latestEnd_le_succ e σ t s hs ss hss
      rw [hv0] at hv
      cases hv
      omega
    · rw [(round_other e σ t0 t hel.1 heq).1] at hd hfw ⊢
      exact h.ok t hel hns hd hfw s hs
  -- the successor was scheduled before `t0`: the round leaves it alone
  rw [round_scheduled e σ t0 s hus0 key.1]
  exact key

theorem loopStart_stop (e : Env) (t : Nat) (hel : EffLeaf e t) :
    ((loopStart e).tst t).stop = ((prepare e (initState e)).tst t).stop :=
  (preLoop_attr (R := fun t a b => EffLeaf e t → b.stop = a.stop) e
    ⟨fun _ _ _ => rfl, fun _ _ _ _ h1 h2 h => (h2 h).trans (h1 h)⟩
    (fun σ t h => by rw [prepassT_effLeaf e σ t h]) (fun _ _ _ => rfl) (fun σ t h => by rw [rollupT_leaf e σ t h.1])
    (prepare e (initState e))).tst t hel

/-- **C04, backward mode, end to end.**  After scheduling any well-formed project: every completed backward (ALAP) effort
    task that has no end after `prepare` (no `end` of its own and none inherited from a container) ends at or before
    `start(s) − gap` of every successor `s` — every leaf whose own or inherited finish-to-start edges name the task or one
    of its enclosing containers — with the gap that successor asks for; and every such successor is scheduled. -/
theorem runScenario_backOK (e : Env) (wf : WF e) (t : Nat) (hel : EffLeaf e t)
    (hns : ((prepare e (initState e)).tst t).stop = none)
    (hd : ((runScenario e).tst t).done = true) (hfw : ((runScenario e).tst t).forward = false)
    (s : Nat) (hs : s ∈ successors e t) :
    ((runScenario e).tst s).scheduled = true ∧
    ∀ ss v, ((runScenario e).tst s).start = some ss → ((runScenario e).tst t).stop = some v → v + succGap e t s ≤ ss := by
  obtain ⟨rest, -, (h : BackInv e (loopStart e) _ rest)⟩ :=
    scenario_induct (I := fun tasks _ σ => BackInv e (loopStart e) σ tasks)
      (fun tasks _ σ t0 h hf => backInv_step e wf _ σ tasks t0 h (List.mem_of_find?_eq_some hf) (by simpa using List.find?_some hf))
      (fun _ _ _ _ h => ⟨h.nodup, h.leaf, h.inrange, h.pending, h.ok⟩)
      ⟨todoOf_nodup e _, todoOf_leaf e _, fun t ht => (todoOf_loopStart e t ht).2.1,
       fun t ht => ⟨rfl, (todoOf_loopStart e t ht).2.2.1, (todoOf_loopStart e t ht).2.2.2.1⟩,
       fun t _ _ hd => absurd hd (by rw [loopStart_done]; exact Bool.noConfusion)⟩
  unfold runScenario at hd hfw ⊢
  rw [finishScenario_leafT e _ t hel.1] at hd hfw ⊢
  rw [finishScenario_leafT e _ s (successors_leaf e t s hs)]
  exact h.ok t hel (by rw [loopStart_stop e t hel]; exact hns) hd hfw s hs

end SP
