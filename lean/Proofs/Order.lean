import Model.Sched
/-!
The pick order of the scenario loop: `prioLe` is a total preorder, so the work list sorted by it is in priority order
(`todo_sorted`, `higher_first`), a task of strictly lowest priority comes last (`lowest_is_last`), and the loop takes the
first ready task of the list (`picks_first_ready`).  Used by C07 and C09.
-/
namespace SP

theorem prioLe_iff (e : Env) (a b : Nat) :
    prioLe e a b = true ↔
      (e.taskD a).prio > (e.taskD b).prio ∨ ((e.taskD a).prio = (e.taskD b).prio ∧ a ≤ b) := by
  unfold prioLe
  simp only [Bool.or_eq_true, Bool.and_eq_true, decide_eq_true_eq, beq_iff_eq]

theorem prioLe_total (e : Env) (a b : Nat) : (prioLe e a b || prioLe e b a) = true := by
  rw [Bool.or_eq_true, prioLe_iff, prioLe_iff]
  omega

theorem prioLe_trans (e : Env) (a b c : Nat) (h1 : prioLe e a b = true) (h2 : prioLe e b c = true) :
    prioLe e a c = true := by
  rw [prioLe_iff] at *
  omega

/-- the work list is sorted by (priority descending, declaration order ascending) -/
theorem todo_sorted (e : Env) (l : List Nat) : (l.mergeSort (prioLe e)).Pairwise (fun a b => prioLe e a b = true) :=
  List.pairwise_mergeSort (prioLe_trans e) (prioLe_total e) l

/-- a task with strictly lowest priority is the last element of the sorted work list -/
theorem lowest_is_last (e : Env) (l : List Nat) (L : Nat) (hL : L ∈ l) (hnd : l.Nodup)
    (hlow : ∀ x ∈ l, x ≠ L → (e.taskD x).prio > (e.taskD L).prio) :
    ∃ pre, l.mergeSort (prioLe e) = pre ++ [L] := by
  have hs := todo_sorted e l
  have hmem : L ∈ l.mergeSort (prioLe e) := List.mem_mergeSort.mpr hL
  have hnd' : (l.mergeSort (prioLe e)).Nodup := (List.mergeSort_perm l (prioLe e)).nodup_iff.mpr hnd
  obtain ⟨pre, post, hsplit⟩ := List.append_of_mem hmem
  refine ⟨pre, ?_⟩
  rw [hsplit]
  cases post with
  | nil => rfl
  | cons y ys =>
    exfalso
    rw [hsplit] at hs hnd'
    have hLy : prioLe e L y = true := by
      have := List.pairwise_append.mp hs
      have h2 := (List.pairwise_cons.mp this.2.1).1
      exact h2 y List.mem_cons_self
    have hyne : y ≠ L := by
      intro hy
      have := (List.nodup_append.mp hnd').2.1
      have h3 := (List.nodup_cons.mp this).1
      exact h3 (hy ▸ List.mem_cons_self)
    have hyl : y ∈ l := by
      have : y ∈ l.mergeSort (prioLe e) := by rw [hsplit]; simp
      exact List.mem_mergeSort.mp this
    have := hlow y hyl hyne
    rw [prioLe_iff] at hLy
    omega

/-- of two tasks in the work list the one with the strictly higher priority comes first -/
theorem higher_first (e : Env) (l : List Nat) (a b : Nat) (pre mid post : List Nat)
    (hsplit : l.mergeSort (prioLe e) = pre ++ b :: mid ++ a :: post) : (e.taskD b).prio ≥ (e.taskD a).prio := by
  have hs := todo_sorted e l
  rw [hsplit] at hs
  have h1 : (b :: mid ++ a :: post).Pairwise (fun a b => prioLe e a b = true) := by
    have := List.pairwise_append.mp (by simpa [List.append_assoc] using hs)
    exact this.2.1
  have := (List.pairwise_cons.mp h1).1 a (by simp)
  rw [prioLe_iff] at this
  omega

/-- the loop picks the first ready task of the list: every task before it is not ready -/
theorem picks_first_ready (e : Env) (σ : St) (tasks : List Nat) (t : Nat)
    (h : tasks.find? (fun t => ready e σ t) = some t) :
    ready e σ t = true ∧ ∃ pre post, tasks = pre ++ t :: post ∧ ∀ x ∈ pre, ready e σ x = false := by
  have := List.find?_eq_some_iff_append.mp h
  obtain ⟨hr, pre, post, hsplit, hpre⟩ := this
  exact ⟨by simpa using hr, pre, post, hsplit, by intro x hx; simpa using hpre x hx⟩

end SP
