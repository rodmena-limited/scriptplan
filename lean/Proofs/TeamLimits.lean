import Proofs.TeamAll
import Proofs.Counted
import Proofs.Solid
/-!
Teams under limits: what the team gate's provisional counting does to the counters, and the predicate "a limit has no room for
the whole team".
-/
namespace SP

theorem limitInc_cnt_le (e : Env) (σ : St) (lid : Nat) (i : Int) (r : Option Nat) (l : Nat) (k : Int) :
    (limitInc e σ lid i r).cnt.get l k ≤ σ.cnt.get l k + (if l = lid then 1 else 0) := by
  by_cases h : l = lid
  · subst h
    simp only [if_true]
    unfold limitInc; simp only []
    split
    · omega
    · split
      · omega
      · simp only [Counters.get_set]
        split
        · rename_i hh; rw [← hh.2]; omega
        · omega
  · simp only [h, if_false]
    rw [limitInc_cnt_other e σ lid i r l k h]; omega

theorem incAll_cnt_le (e : Env) (σ : St) (ps : List (Nat × Option Nat)) (i : Int) (l : Nat) (k : Int)
    (hnd : (ps.map (·.1)).Nodup) : (incAll e σ ps i).cnt.get l k ≤ σ.cnt.get l k + 1 := by
  by_cases hm : l ∈ ps.map (·.1)
  · obtain ⟨p, hp, rfl⟩ := List.mem_map.mp hm
    obtain ⟨σ', h1, h2⟩ := incAll_cnt_at e σ ps i p.1 p.2 k hnd hp
    have h3 := limitInc_cnt_le e σ' p.1 i p.2 p.1 k
    rw [if_pos rfl, h1] at h3
    rw [h2]
    exact h3
  · rw [incAll_cnt_notin e σ ps i l k hm]
    omega

theorem bookPairs_nodup (e : Env) (wf : WF e) (r t : Nat) : ((bookPairs e r t).map (·.1)).Nodup := by
  have : (bookPairs e r t).map (·.1) = resLimitIds e r ++ taskLimitIds e t := by
    unfold bookPairs
    simp only [List.map_append, List.map_map]
    congr 1
    · exact List.map_id' _
    · exact List.map_id' _
  rw [this]; exact wf.lim_nodup r t

theorem countMember_cnt_bounds (e : Env) (wf : WF e) (σ : St) (t : Nat) (i : Int) (r : Nat) (l : Nat) (k : Int) :
    σ.cnt.get l k ≤ (countMember e σ t i r).cnt.get l k ∧ (countMember e σ t i r).cnt.get l k ≤ σ.cnt.get l k + 1 := by
  rw [countMember_eq]
  exact ⟨incAll_cnt_ge e σ _ i l k, incAll_cnt_le e σ _ i l k (bookPairs_nodup e wf r t)⟩

/-- **a failing team gate**: it names a member that was not available, or not within the task's limits, in a state with the
    same ledger and marks whose counters exceed the real ones by at most the number of members checked before it -/
theorem teamGate_fails_member_cnt (e : Env) (wf : WF e) (t : Nat) (i : Int) (σ : St) (sel : List Nat)
    (h : teamGateOk e t i σ sel = false) :
    ∃ m ∈ sel, ∃ σ' : St, σ'.led = σ.led ∧ σ'.marks = σ.marks ∧
      (∀ l k, σ.cnt.get l k ≤ σ'.cnt.get l k ∧ σ'.cnt.get l k ≤ σ.cnt.get l k + ((sel.length : Int) - 1)) ∧
      (available e σ' m i && taskLimitsOk e σ' t i m) = false := by
  induction sel generalizing σ with
  | nil => simp [teamGateOk] at h
  | cons r rs ih =>
    unfold teamGateOk at h
    by_cases h1 : (available e σ r i && taskLimitsOk e σ t i r) = true
    · rw [h1, Bool.true_and] at h
      obtain ⟨m, hm, σ', hl, hmk, hc, hf⟩ := ih (countMember e σ t i r) h
      refine ⟨m, List.mem_cons_of_mem _ hm, σ', by rw [hl, countMember_led], by rw [hmk, countMember_marks], ?_, hf⟩
      intro l k
      have hb := countMember_cnt_bounds e wf σ t i r l k
      have hc' := hc l k
      simp only [List.length_cons]
      constructor
      · omega
      · have : ((rs.length + 1 : Nat) : Int) = (rs.length : Int) + 1 := by omega
        omega
    · refine ⟨r, List.mem_cons_self, σ, rfl, rfl, ?_, by simpa using h1⟩
      intro l k
      simp only [List.length_cons]
      constructor
      · omega
      · have : (0 : Int) ≤ (rs.length : Int) := by omega
        omega

/-- some limit of a member (own or of a group) or of the task (own or of a container) has no room for the whole team at slot `i` -/
def TeamTight (e : Env) (σ : St) (t : Nat) (sel : List Nat) (i : Int) : Prop :=
  ∃ m ∈ sel, (∃ lid ∈ resLimitIds e m, Tight e lid i none ((sel.length : Int) - 1) σ) ∨
    (∃ lid ∈ taskLimitIds e t, Tight e lid i (some m) ((sel.length : Int) - 1) σ)

theorem teamTight_closed_step {e : Env} {σ σ' : St} {t : Nat} {sel : List Nat} {i : Int}
    (hstep : ∀ lid ro, Tight e lid i ro ((sel.length : Int) - 1) σ → Tight e lid i ro ((sel.length : Int) - 1) σ')
    (h : TeamTight e σ t sel i) : TeamTight e σ' t sel i := by
  obtain ⟨m, hm, h1⟩ := h
  refine ⟨m, hm, ?_⟩
  rcases h1 with ⟨lid, hl, ht⟩ | ⟨lid, hl, ht⟩
  · exact Or.inl ⟨lid, hl, hstep lid none ht⟩
  · exact Or.inr ⟨lid, hl, hstep lid (some m) ht⟩

theorem teamTight_unlimited {e : Env} {σ : St} {t : Nat} {sel : List Nat} {i : Int}
    (hrl : ∀ m ∈ sel, resLimitIds e m = []) (htl : taskLimitIds e t = []) (h : TeamTight e σ t sel i) : False := by
  obtain ⟨m, hm, h1⟩ := h
  rcases h1 with ⟨lid, hl, _⟩ | ⟨lid, hl, _⟩
  · rw [hrl m hm] at hl; cases hl
  · rw [htl] at hl; cases hl

end SP
