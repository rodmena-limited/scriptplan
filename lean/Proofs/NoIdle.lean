import Proofs.Solid
import Proofs.Visits
/-!
C08 in terms of the ledger the task leaves behind.  A closed gate has a reason that lasts (`unavailable_reason`,
`gate_closed_has`): the slot is off shift, or it carries an entry, or a limit is exhausted.  Hence between the slot its walk
starts in and any slot the task is booked in, no working slot of its resource is left without an entry, unless a limit
refuses it — for a walk in either direction (`walk_no_idle_has`, `scheduleTask_no_idle_between`), and read forward over the
interval of slots (`scheduleTask_no_idle_interval`).
-/
namespace SP

theorem walkVisits_inv (e : Env) (wf : WF e) (t : Nat) (fuel : Nat) (σ : St) (w : Walk)
    (hinv : Inv e σ) (hs : Solid e σ) (hlf : (e.taskD t).leaf = true) (hw : WalkOk e t w) (hin : WalkIn e w) :
    ∀ p ∈ walkVisits e t fuel σ w, Inv e p.1 ∧ Solid e p.1 ∧ WalkOk e t p.2 ∧ WalkIn e p.2 := by
  intro p hp
  rw [walkVisits_eq] at hp
  obtain ⟨⟨hs1, hin1⟩, hi1, hw1, -⟩ := visits_reach_inv (P := fun σ w => Solid e σ ∧ WalkIn e w) wf hlf
    (fun σ w hi hw h _ h0 h1 =>
      ⟨closed_scheduleSlot (solid_closed e) wf σ t w hi hlf trivial hw h.2 h.1, WalkIn.advance wf h0 h1⟩)
    fuel σ w hinv hw ⟨hs, hin⟩ p hp
  exact ⟨hi1, hs1, hw1, hin1⟩

theorem walkVisits_suffix (e : Env) (t : Nat) (fuel : Nat) (σ : St) (w : Walk) :
    ∀ p ∈ walkVisits e t fuel σ w, ∃ f', (walkLoop e t true fuel σ w).1 = (walkLoop e t true f' p.1 p.2).1 := by
  intro p hp
  rw [walkVisits_eq] at hp
  obtain ⟨-, f', hf'⟩ := visits_reach (P := fun _ _ => True) (fun _ _ _ _ _ _ => trivial) fuel σ w trivial p hp
  exact ⟨f' + 1, by rw [hf']⟩

theorem walkLoop_unvisited (e : Env) (t : Nat) (fuel : Nat) (σ : St) (w : Walk) (r' : Nat) (i' : Int)
    (h : ∀ p ∈ walkVisits e t fuel σ w, p.2.cur ≠ i') : (walkLoop e t true fuel σ w).1.led.get r' i' = σ.led.get r' i' := by
  rw [walkVisits_eq] at h
  exact walk_unvisited e t true fuel σ w r' i' h

theorem walkVisits_interval (e : Env) (t : Nat) (fuel : Nat) (σ : St) (w : Walk) (r : Nat) (L i : Int)
    (hL : (walkLoop e t true fuel σ w).1.led.get r L ≠ σ.led.get r L) (h1 : w.cur ≤ i) (h2 : i ≤ L) :
    ∃ p ∈ walkVisits e t fuel σ w, p.2.cur = i := by
  rw [walkVisits_eq]
  exact visits_between e t true fuel σ w r L i hL ⟨h1, h2⟩

theorem unavailable_reason (e : Env) (σ σ' : St) (m : Nat) (i : Int) (hs : Solid e σ) (hl : σ'.led = σ.led) (hmk : σ'.marks = σ.marks)
    (hi : 0 ≤ i) (hleaf : (e.resD m).leaf = true) (hon : e.onShift m i = true) (hnl : e.leaveMark m i = false)
    (ha : available e σ' m i = false) : Has m i σ ∨ ∃ lid ∈ resLimitIds e m, limitOk e σ' lid i none = false := by
  by_cases hlim : (resLimitIds e m).all (fun lid => limitOk e σ' lid i none) = true
  · left
    have hnorm : e.norm i = i := by unfold Env.norm; simp [Int.not_lt.mpr hi]
    unfold available at ha
    simp only [hleaf, hon, hlim, Bool.and_true, Bool.true_and, hnorm, hnl, Bool.or_false, hl, hmk] at ha
    unfold Has
    by_cases hav : availSecs e.G (σ.led.get m i) > 0
    · simp only [hav, decide_true, Bool.true_and, Bool.not_eq_false', Bool.and_eq_true, decide_eq_true_eq] at ha
      exact hs.marked m i ha.1
    · intro hu
      exact hav (hs.room m i hu)
  · right
    have hlim' : (resLimitIds e m).all (fun lid => limitOk e σ' lid i none) = false := by simpa using hlim
    obtain ⟨lid, hlid, hno⟩ := List.all_eq_false.mp hlim'
    exact ⟨lid, hlid, by simpa using hno⟩

/-- the resource was not available to the task at a working slot ⇒ the slot carries an entry, or a limit refused -/
theorem gate_closed_has (e : Env) (wf : WF e) (σ : St) (t : Nat) (w : Walk) (r : Nat)
    (hinv : Inv e σ) (hs : Solid e σ) (hw : WalkOk e t w) (hin : WalkIn e w)
    (hleaf : (e.resD r).leaf = true) (hon : e.onShift r w.cur = true) (hnl : e.leaveMark r w.cur = false)
    (hg : gate e σ t w r = false) : Has r w.cur σ ∨ Exhausted e σ t r w.cur := by
  have hs1 : Solid e (reserveStep σ w r) := closed_reserveStep (solid_closed e) σ t w r hinv hw hin hs
  have hcnt : (reserveStep σ w r).cnt = σ.cnt := by unfold reserveStep; split <;> rfl
  have hlim : ∀ lid ro, limitOk e (reserveStep σ w r) lid w.cur ro = limitOk e σ lid w.cur ro := by
    intro lid ro; unfold limitOk; rw [hcnt]
  unfold gate at hg
  by_cases hav : available e (reserveStep σ w r) r w.cur = true
  · rw [hav, Bool.true_and] at hg
    obtain ⟨lid, hmem, hno⟩ := List.all_eq_false.mp hg
    exact Or.inr (Or.inr ⟨lid, hmem, by unfold Refuses; rw [← hlim]; exact (Bool.not_eq_true _).mp hno⟩)
  · rcases unavailable_reason e _ _ r w.cur hs1 rfl rfl hin.cur_nonneg hleaf hon hnl ((Bool.not_eq_true _).mp hav) with
      h1 | ⟨lid, hmem, hno⟩
    · left
      unfold Has at *
      rw [← reserveStep_get σ w r r w.cur]
      exact h1
    · exact Or.inr (Or.inl ⟨lid, hmem, by unfold Refuses; rw [← hlim]; exact hno⟩)

theorem exhausted_closed_step {e : Env} {σ σ' : St} {t r : Nat} {i : Int}
    (hstep : ∀ lid ro, Refuses e lid i ro σ → Refuses e lid i ro σ') (h : Exhausted e σ t r i) : Exhausted e σ' t r i := by
  rcases h with ⟨lid, hm, hr⟩ | ⟨lid, hm, hr⟩
  · exact Or.inl ⟨lid, hm, hstep lid none hr⟩
  · exact Or.inr ⟨lid, hm, hstep lid (some r) hr⟩

/-- **along the walk, in terms of the ledger it leaves**: every visited slot in which the resource is working carries an entry
    when the walk ends — the task's own, or the one that made the resource unavailable — unless a limit refuses the slot -/
theorem walk_no_idle_has (e : Env) (wf : WF e) (t r : Nat) (fwd : Bool) (fuel : Nat) (σ : St) (w : Walk) (vis : List Int)
    (hinv : Inv e σ) (hs : Solid e σ) (hlf : (e.taskD t).leaf = true) (hw : WalkOk e t w) (hin : WalkIn e w)
    (ha : (e.taskD t).hasAlloc = true) (hm : (e.taskD t).milestone = false)
    (hsel : selectedOf e σ t w = [r]) (hlt : w.done < (e.taskD t).effort) (hpos : 0 < (e.taskD t).effort)
    (h : Acc e σ t r fwd w vis) (hleaf : (e.resD r).leaf = true) :
    ∀ p ∈ visits e t fwd fuel σ w, e.onShift r p.2.cur = true → e.leaveMark r p.2.cur = false →
      Has r p.2.cur (walkLoop e t fwd fuel σ w).1 ∨ Exhausted e (walkLoop e t fwd fuel σ w).1 t r p.2.cur := by
  intro p hp hon hnl
  have hiff := walk_no_idle e wf t r fwd fuel σ w vis hinv hlf hw ha hm hsel hlt hpos h p hp
  by_cases hg : gate e p.1 t p.2 r = true
  · exact Or.inl (usage_ne_nil_of_usageOf (hiff.mpr hg))
  · obtain ⟨⟨hs1, hin1⟩, hi1, hw1, f', hf'⟩ := visits_reach_inv (P := fun σ w => Solid e σ ∧ WalkIn e w) wf hlf
      (fun σ w hi hw h _ h0 h1 =>
        ⟨closed_scheduleSlot (solid_closed e) wf σ t w hi hlf trivial hw h.2 h.1, WalkIn.advance wf h0 h1⟩)
      fuel σ w hinv hw ⟨hs, hin⟩ p hp
    rw [hf']
    rcases gate_closed_has e wf p.1 t p.2 r hi1 hs1 hw1 hin1 hleaf hon hnl (by simpa using hg) with hhas | hex
    · exact Or.inl (closed_walkLoop (has_closed e r p.2.cur) wf t fwd _ p.1 p.2 hi1 hlf trivial hw1 hin1 hhas)
    · exact Or.inr (exhausted_closed_step (fun lid ro hr =>
        closed_walkLoop (refuses_closed e lid p.2.cur ro) wf t fwd _ p.1 p.2 hi1 hlf trivial hw1 hin1 hr) hex)

theorem walkLoop_no_idle_has (e : Env) (wf : WF e) (t r : Nat) (fuel : Nat) (σ : St) (w : Walk) (vis : List Int)
    (hinv : Inv e σ) (hs : Solid e σ) (hlf : (e.taskD t).leaf = true) (hw : WalkOk e t w) (hin : WalkIn e w)
    (ha : (e.taskD t).hasAlloc = true) (hm : (e.taskD t).milestone = false)
    (hsel : selectedOf e σ t w = [r]) (hlt : w.done < (e.taskD t).effort) (hpos : 0 < (e.taskD t).effort)
    (h : FInv e σ t r w vis) (hok : (walkLoop e t true fuel σ w).2.2 = true)
    (hleaf : (e.resD r).leaf = true) :
    ∀ p ∈ walkVisits e t fuel σ w, e.onShift r p.2.cur = true → e.leaveMark r p.2.cur = false →
      Has r p.2.cur (walkLoop e t true fuel σ w).1 ∨ Exhausted e (walkLoop e t true fuel σ w).1 t r p.2.cur := by
  rw [walkVisits_eq]
  exact walk_no_idle_has e wf t r true fuel σ w vis hinv hs hlf hw hin ha hm hsel hlt hpos h.acc hleaf

/-- **one task, in terms of the ledger**: a successful `scheduleTask` of an effort task with the single selected resource `r`
    leaves, between the slot its walk started in and ANY slot `L` it is booked in, no working slot of `r` (on shift, no leave)
    without an entry — unless a limit of the resource or of the task refuses that slot -/
theorem scheduleTask_no_idle_between (e : Env) (wf : WF e) (σ : St) (t r : Nat)
    (hinv : Inv e σ) (hs : Solid e σ) (hlf : (e.taskD t).leaf = true) (hal : (e.taskD t).hasAlloc = true)
    (hnm : (e.taskD t).milestone = false) (hpos : 0 < (e.taskD t).effort)
    (hsel1 : selectedOf e (walkStart e σ t).1 t (walkStart e σ t).2 = [r])
    (hnd : (σ.tst t).done = false) (hclean : ∀ i, usageOf (σ.led.get r i).usage t = none)
    (hleaf : (e.resD r).leaf = true) (hok : (scheduleTask e σ t).2 = true) :
    ∀ L, usageOf ((scheduleTask e σ t).1.led.get r L).usage t ≠ none →
      ∀ i, (if (σ.tst t).forward then (initCursor e σ t).1 ≤ i ∧ i ≤ L else L ≤ i ∧ i ≤ (initCursor e σ t).1) →
        e.onShift r i = true → e.leaveMark r i = false →
        Has r i (scheduleTask e σ t).1 ∨ Exhausted e (scheduleTask e σ t).1 t r i := by
  intro L hL i hi hon hnl
  obtain ⟨hin, -, heq⟩ := scheduleTask_ok e wf σ t hnd hok
  rw [heq, setT_led] at hL
  rw [heq]
  have hcur : (walkStart e σ t).2.cur = (initCursor e σ t).1 := by rw [walkStart_alloc e σ t hal]
  -- `L` holds an entry it did not hold before, so the slots between the cursor and `L` were visited
  obtain ⟨p, hp, rfl⟩ := visits_between e t (σ.tst t).forward (e.size.toNat + 3) (walkStart e σ t).1 (walkStart e σ t).2 r L i
    (fun heq => hL (by rw [heq]; exact hclean L)) (by rw [hcur]; exact hi)
  rcases walk_no_idle_has e wf t r (σ.tst t).forward _ (walkStart e σ t).1 (walkStart e σ t).2 [] (inv_setT _ _ hinv)
    ((solid_closed e).setT σ t _ hs) hlf (walkStart_walkOk e wf σ t) hin hal hnm hsel1 hpos hpos
    (acc_start e _ t r _ _ rfl hclean) hleaf p hp hon hnl with h1 | h1
  · exact Or.inl ((has_closed e r _).setT _ t _ h1)
  · exact Or.inr (exhausted_closed_step (fun lid ro hr => (refuses_closed e lid _ ro).setT _ t _ hr) h1)

/-- **one forward task, in terms of the ledger**: between the slot of its dependency bound and ANY slot `L` it is booked in -/
theorem scheduleTask_no_idle_interval_sel (e : Env) (wf : WF e) (σ : St) (t r : Nat)
    (hinv : Inv e σ) (hs : Solid e σ) (hlf : (e.taskD t).leaf = true) (hal : (e.taskD t).hasAlloc = true)
    (hnm : (e.taskD t).milestone = false) (hpos : 0 < (e.taskD t).effort)
    (hsel1 : selectBest e (σ.setT t (σ.tst t)) (e.taskD t).alloc (e.taskD t).alt (e.taskD t).effort (initCursor e σ t).1 = [r])
    (hb : t < σ.ts.size) (hf : (σ.tst t).forward = true)
    (hnd : (σ.tst t).done = false) (hclean : ∀ i, usageOf (σ.led.get r i).usage t = none)
    (hleaf : (e.resD r).leaf = true)
    (hok : (scheduleTask e σ t).2 = true) :
    ∀ L, usageOf ((scheduleTask e σ t).1.led.get r L).usage t ≠ none →
      ∀ i, (initCursor e σ t).1 ≤ i → i ≤ L → e.onShift r i = true → e.leaveMark r i = false →
        Has r i (scheduleTask e σ t).1 ∨ Exhausted e (scheduleTask e σ t).1 t r i := by
  intro L hL i hci hiL
  exact scheduleTask_no_idle_between e wf σ t r hinv hs hlf hal hnm hpos
    (by rw [walkStart_alloc e σ t hal]; unfold selectedOf; exact hsel1) hnd hclean hleaf hok L hL i
    (by rw [hf, if_pos rfl]; exact ⟨hci, hiL⟩)

/-- the same for a task whose selection is `[r]` in every state -/
theorem scheduleTask_no_idle_interval (e : Env) (wf : WF e) (σ : St) (t r : Nat)
    (hinv : Inv e σ) (hs : Solid e σ) (hel : Elig e t r) (hb : t < σ.ts.size) (hf : (σ.tst t).forward = true)
    (hnd : (σ.tst t).done = false) (hclean : ∀ i, usageOf (σ.led.get r i).usage t = none)
    (hleaf : (e.resD r).leaf = true)
    (hok : (scheduleTask e σ t).2 = true) :
    ∀ L, usageOf ((scheduleTask e σ t).1.led.get r L).usage t ≠ none →
      ∀ i, (initCursor e σ t).1 ≤ i → i ≤ L → e.onShift r i = true → e.leaveMark r i = false →
        Has r i (scheduleTask e σ t).1 ∨ Exhausted e (scheduleTask e σ t).1 t r i :=
  scheduleTask_no_idle_interval_sel e wf σ t r hinv hs hel.leaf hel.alloc hel.nomile hel.effort (hel.sel _ _) hb hf hnd hclean
    hleaf hok

end SP
