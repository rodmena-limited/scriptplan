import Proofs.Frame
import Proofs.GapLen
/-!
The start of a forward effort task (C04).  `bookResources` by the way it ends (`bookResources_ts_cases`).
`markDate` is the date `markStart` writes at the first booking; it is at or after the bound (`markDate_ge`).  `StartInv`,
the invariant of the forward walk: no start yet and nothing credited, or a start at or after the bound `B`.  With
`boundOf`, the dependency bound in the state the task is started in: `scheduleTask_start_ge`.
-/
namespace SP

/-- the date `markStart` writes when the first booking happens in slot `cur` -/
def markDate (e : Env) (cur : Int) (off : Rat) : Int := e.time cur + (if off > 0 then off.floor else 0)

/-- whichever slot at or after the cursor the first booking lands in, the date written is at or after the bound -/
theorem markDate_ge (e : Env) (wf : WF e) (B : Int) (hB : e.start ≤ B) (cur : Int) (hc : (cursorOf e B).1 ≤ cur) :
    B ≤ markDate e cur (cursorOf e B).2 := by
  have h := slot_ge_bound e wf B hB cur hc
  unfold markDate
  generalize (cursorOf e B).2 = off at h
  split
  · have h1 : ((B - e.time cur : Int) : Rat) ≤ off := by
      rw [Rat.intCast_sub]
      grind
    have := Rat.le_floor_iff.mpr h1
    omega
  · have h1 : (B : Rat) ≤ ((e.time cur : Int) : Rat) := by grind
    have : B ≤ e.time cur := by exact_mod_cast h1
    omega

theorem markDate_in_slot (e : Env) (fb : Int) (off : Rat) (h0 : 0 ≤ off) (h1 : off ≤ (e.G : Rat)) :
    e.time fb ≤ markDate e fb off ∧ markDate e fb off ≤ e.time (fb + 1) := by
  have hfl : (0 : Int) ≤ off.floor := Rat.le_floor_iff.mpr (by simpa using h0)
  have hle : off.floor ≤ e.G := by
    have := Rat.floor_monotone h1
    rwa [Rat.floor_intCast] at this
  unfold markDate
  rw [time_succ]
  split
  · omega
  · omega

/-- in a later slot (offset cleared) the date written is the slot start, which is after the bound -/
theorem markDate_ge_later (e : Env) (wf : WF e) (B : Int) (cur : Int) (hc : (cursorOf e B).1 < cur) :
    B ≤ markDate e cur 0 := by
  have h1 := lt_time_idx_succ e wf.G_pos B
  have h2 := time_mono e wf.G_pos (e.idx B + 1) cur hc
  have h3 : markDate e cur 0 = e.time cur := by simp [markDate]
  omega

theorem markStart_later (e : Env) (σ : St) (t : Nat) (w : Walk) (h : w.done ≠ 0) : markStart e σ t w = σ := by
  have : (w.done == 0) = false := by simpa using h
  simp [markStart, this]

theorem markStart_first (e : Env) (σ : St) (t : Nat) (w : Walk) (hpos : 0 < (e.taskD t).effort) (h : w.done = 0)
    (hf : (σ.tst t).forward = true) :
    markStart e σ t w = σ.setT t { σ.tst t with start := some (markDate e w.cur w.offset) } := by
  have h1 : (w.done == 0) = true := by simpa using h
  have h2 : decide ((e.taskD t).effort > 0) = true := by simpa using hpos
  simp only [markStart, h1, h2, hf, Bool.and_self, if_true]
  rfl

/-- `bookResources_cases` with what the booking leaves of the task table: it is written by `markStart` only -/
theorem bookResources_ts_cases {P : St × Walk → Prop} (e : Env) (σ : St) (t : Nat) (w : Walk)
    (skip : ∀ s, P (σ, { w with selected := s }))
    (booked : ∀ σ' s l g, σ'.ts = σ.ts →
      P (markStart e σ' t { w with selected := s }, { w with selected := s, done := w.done + g, last := l }))
    (nothing : ∀ σ' s l, σ'.ts = σ.ts → P (σ', { w with selected := s, last := l })) :
    P (bookResources e σ t w) := by
  refine bookResources_cases e σ t w skip (fun sel _ acc hacc => ?_)
  have hts : acc.σ.ts = σ.ts := by rw [hacc, bookAll_ts, leveled_ts]
  by_cases h4 : acc.any = true
  · rw [if_pos h4]; exact booked _ _ _ _ hts
  · rw [if_neg h4]; exact nothing _ _ _ hts

theorem bookResources_start (e : Env) (σ : St) (t0 : Nat) (w : Walk)
    (hb : t0 < σ.ts.size) (hf : (σ.tst t0).forward = true) (hpos : 0 < (e.taskD t0).effort) :
    (w.done ≠ 0 → (bookResources e σ t0 w).1.tst t0 = σ.tst t0) ∧
    (w.done = 0 →
      ((bookResources e σ t0 w).2.done = 0 ∧ (bookResources e σ t0 w).1.tst t0 = σ.tst t0) ∨
      ((bookResources e σ t0 w).1.tst t0).start = some (markDate e w.cur w.offset)) := by
  refine bookResources_ts_cases (P := fun r => (w.done ≠ 0 → r.1.tst t0 = σ.tst t0) ∧
    (w.done = 0 → (r.2.done = 0 ∧ r.1.tst t0 = σ.tst t0) ∨ (r.1.tst t0).start = some (markDate e w.cur w.offset)))
    e σ t0 w (fun s => ⟨fun _ => rfl, fun hz => Or.inl ⟨hz, rfl⟩⟩) (fun σ' s l g hts => ⟨fun hne => ?_, fun hz => Or.inr ?_⟩)
    (fun σ' s l hts => ⟨fun _ => tst_congr hts t0, fun hz => Or.inl ⟨hz, tst_congr hts t0⟩⟩)
  · show (markStart e σ' t0 { w with selected := s }).tst t0 = σ.tst t0
    rw [markStart_later e σ' t0 { w with selected := s } hne]; exact tst_congr hts t0
  · show ((markStart e σ' t0 { w with selected := s }).tst t0).start = _
    rw [markStart_first e σ' t0 { w with selected := s } hpos hz (by rw [tst_congr hts]; exact hf),
      tst_setT_same _ _ _ (by rw [hts]; exact hb)]

/-- invariant of a forward walk about the start of its own task; `B` is the dependency bound -/
structure StartInv (e : Env) (σ : St) (t0 : Nat) (B : Int) (w : Walk) : Prop where
  inb : t0 < σ.ts.size
  fwd : (σ.tst t0).forward = true
  cur : (cursorOf e B).1 ≤ w.cur
  off : (w.offset = (cursorOf e B).2 ∧ w.cur = (cursorOf e B).1) ∨ (w.offset = 0 ∧ (cursorOf e B).1 < w.cur)
  started : w.done ≠ 0 → ∃ v, (σ.tst t0).start = some v ∧ B ≤ v

theorem StartInv.date_ge {e : Env} {σ : St} {t0 : Nat} {B : Int} {w : Walk} (h : StartInv e σ t0 B w) (wf : WF e)
    (hB : e.start ≤ B) : B ≤ markDate e w.cur w.offset := by
  rcases h.off with ⟨h1, _⟩ | ⟨h1, h2⟩
  · rw [h1]; exact markDate_ge e wf B hB w.cur h.cur
  · rw [h1]; exact markDate_ge_later e wf B w.cur h2

theorem bookResources_startInv (e : Env) (wf : WF e) (σ : St) (t0 : Nat) (B : Int) (w : Walk) (hB : e.start ≤ B)
    (hpos : 0 < (e.taskD t0).effort) (h : StartInv e σ t0 B w) :
    (bookResources e σ t0 w).2.done ≠ 0 →
      ∃ v, ((bookResources e σ t0 w).1.tst t0).start = some v ∧ B ≤ v := by
  intro hne
  obtain ⟨h1, h2⟩ := bookResources_start e σ t0 w h.inb h.fwd hpos
  by_cases hz : w.done = 0
  · rcases h2 hz with ⟨hd, _⟩ | hs
    · exact absurd hd hne
    · exact ⟨_, hs, h.date_ge wf hB⟩
  · rw [h1 hz]; exact h.started hz

theorem scheduleSlot_startInv (e : Env) (wf : WF e) (σ : St) (t0 : Nat) (B : Int) (w : Walk) (hB : e.start ≤ B)
    (hpos : 0 < (e.taskD t0).effort) (hm : (e.taskD t0).milestone = false) (h : StartInv e σ t0 B w) :
    ((scheduleSlot e σ t0 w).2.2 = true → StartInv e (scheduleSlot e σ t0 w).1 t0 B (advance true w (scheduleSlot e σ t0 w).2.1)) ∧
    ((scheduleSlot e σ t0 w).2.2 = false → ∃ v, ((scheduleSlot e σ t0 w).1.tst t0).start = some v ∧ B ≤ v) := by
  have hfr := bookResources_frame e σ t0 w
  have hcur := (bookResources_walk e σ t0 w).1
  have hst := bookResources_startInv e wf σ t0 B w hB hpos h
  refine ⟨fun hc => ?_, fun hc => ?_⟩
  · obtain ⟨hs1, hs2⟩ := scheduleSlot_effort_true e σ t0 w hm hpos hc
    rw [hs1, hs2]
    have hadv : (cursorOf e B).1 < (advance true w (bookResources e σ t0 w).2).cur := by
      rw [advance_cur, hcur]; have := h.cur; simp only [if_true]; omega
    exact ⟨by rw [hfr.2.2.2.2]; exact h.inb, by rw [hfr.2.2.2.1]; exact h.fwd, Int.le_of_lt hadv,
      Or.inr ⟨rfl, hadv⟩, hst⟩
  · obtain ⟨hfin, -, -, hts⟩ := scheduleSlot_effort_false e σ t0 w hm hpos h.inb hc
    obtain ⟨v, hv, hle⟩ := hst (by grind)
    exact ⟨v, by rw [hts, if_pos h.fwd]; exact hv, hle⟩

/-- the dependency bound of a forward task without a start of its own, in state `σ` -/
def boundOf (e : Env) (σ : St) (t : Nat) : Int :=
  match (σ.tst t).start with
  | some s => earliestStart e σ (e.taskD t).allDeps (max e.start s)
  | none => earliestStart e σ (e.taskD t).allDeps e.start

theorem boundOf_ge_start (e : Env) (σ : St) (t : Nat) : e.start ≤ boundOf e σ t := by
  unfold boundOf
  split
  · exact Int.le_trans (Int.le_max_left _ _) (earliestStart_ge e σ _ _)
  · exact earliestStart_ge e σ _ _

theorem boundOf_ge_depDate (e : Env) (σ : St) (t : Nat) (dp : Dep) (hd : dp ∈ (e.taskD t).allDeps) (dt : Int)
    (hdt : (if dp.onstart then (σ.tst dp.target).start else (σ.tst dp.target).stop) = some dt) :
    depDate e dp dt ≤ boundOf e σ t := by
  unfold boundOf
  split
  · exact earliestStart_ge_depDate e σ _ _ dp hd dt hdt
  · exact earliestStart_ge_depDate e σ _ _ dp hd dt hdt

theorem boundOf_ge_dep (e : Env) (wf : WF e) (σ : St) (t : Nat) (dp : Dep) (hd : dp ∈ (e.taskD t).allDeps) (dt : Int)
    (hdt : (if dp.onstart then (σ.tst dp.target).start else (σ.tst dp.target).stop) = some dt) :
    dt + dp.gap ≤ boundOf e σ t :=
  Int.le_trans (depDate_ge e wf.G_pos dp dt) (boundOf_ge_depDate e σ t dp hd dt hdt)

theorem initCursor_forward (e : Env) (σ : St) (t : Nat) (hf : (σ.tst t).forward = true)
    (hnp : (e.taskD t).startProvided = false) : initCursor e σ t = cursorOf e (boundOf e σ t) := by
  unfold initCursor boundOf
  simp only [hf, if_true, hnp, Bool.false_eq_true, if_false]
  cases (σ.tst t).start <;> rfl

theorem walkStart_forward (e : Env) (σ : St) (t : Nat) (hf : (σ.tst t).forward = true)
    (hnp : (e.taskD t).startProvided = false)
    (h : ((e.taskD t).milestone || (e.taskD t).effort == 0) = true ∨ (e.taskD t).hasAlloc = true) :
    walkStart e σ t =
      (σ.setT t (σ.tst t), { cur := (cursorOf e (boundOf e σ t)).1, offset := (cursorOf e (boundOf e σ t)).2 }) := by
  unfold walkStart preStartCursor preStartT
  rcases h with h | h <;> simp [h, initCursor_forward e σ t hf hnp]

/-- **one forward task**: a successful `scheduleTask` of an effort task without a start of its own leaves it with a
    start at or after its dependency bound (computed in the state it was started in) -/
theorem scheduleTask_start_ge (e : Env) (wf : WF e) (σ : St) (t0 : Nat)
    (hb : t0 < σ.ts.size) (hf : (σ.tst t0).forward = true) (hnp : (e.taskD t0).startProvided = false)
    (ha : (e.taskD t0).hasAlloc = true) (hm : (e.taskD t0).milestone = false) (hpos : 0 < (e.taskD t0).effort)
    (hnd : (σ.tst t0).done = false) (hok : (scheduleTask e σ t0).2 = true) :
    ∃ v, ((scheduleTask e σ t0).1.tst t0).start = some v ∧ boundOf e σ t0 ≤ v := by
  obtain ⟨-, hfin, heq⟩ := scheduleTask_ok e wf σ t0 hnd hok
  have hB := boundOf_ge_start e σ t0
  rw [walkStart_forward e σ t0 hf hnp (Or.inr ha), hf] at hfin heq
  obtain ⟨σl, wl, hI, hcl, h1, -⟩ := walkLoop_ind (I := fun σ' w => StartInv e σ' t0 (boundOf e σ t0) w)
    (fun σ' w h hc _ _ => (scheduleSlot_startInv e wf σ' t0 _ w hB hpos hm h).1 hc) _ _ _
    ⟨by rw [size_setT]; exact hb, by rw [tst_setT_same _ _ _ hb]; exact hf, Int.le_refl _, Or.inl ⟨rfl, rfl⟩,
     fun h => absurd rfl h⟩ hfin
  obtain ⟨v, hv, hle⟩ := (scheduleSlot_startInv e wf σl t0 _ wl hB hpos hm hI).2 hcl
  refine ⟨v, ?_, hle⟩
  rw [heq, tst_setT_same _ _ _ (by rw [h1, (scheduleSlot_frame e σl t0 wl).2.2.2.2]; exact hI.inb), h1]
  unfold finalT
  simp [hv]

end SP
