import Lean.Meta.Tactic.Simp.RegisterCommand
/-! The simp attribute of `Proofs/Intruder`, declared in a module of its own because an attribute cannot be used in the
file that registers it. -/
/-- the rewrite rules of `Proofs/Intruder`: how `ext` and `lift` commute with the functions of the scheduler -/
register_simp_attr intr
