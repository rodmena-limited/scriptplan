import Proofs.Walk
import Proofs.WalkInd
/-!
End-to-end effort accounting for one task (C03): along the walk of `scheduleTask`, the effort credited
so far equals (seconds recorded for the task in the ledger) x efficiency / 3600, slot by slot, and the
tail release of the finishing slot makes the total exactly the requested effort.  `walkLoop_single` and
`scheduleTask_walk_single` carry any further property of the walk along with this accounting; the framing proofs (C06) are
built on them.
-/
namespace SP

/-- seconds recorded for task `t` in a slot -/
def taskSecs (s : Slot) (t : Nat) : Rat := (usageOf s.usage t).getD 0

def sumOver (L : Ledger) (r t : Nat) : List Int → Rat
  | [] => 0
  | i :: is => taskSecs (L.get r i) t + sumOver L r t is

theorem sumOver_congr (L L' : Ledger) (r t : Nat) (vis : List Int)
    (h : ∀ i ∈ vis, usageOf (L'.get r i).usage t = usageOf (L.get r i).usage t) :
    sumOver L' r t vis = sumOver L r t vis := by
  induction vis with
  | nil => rfl
  | cons i is ih =>
    simp only [sumOver, taskSecs]
    rw [h i List.mem_cons_self, ih (fun j hj => h j (List.mem_cons_of_mem _ hj))]

theorem reserveStep_get (σ : St) (w : Walk) (r : Nat) (r' : Nat) (i' : Int) :
    ((reserveStep σ w r).led.get r' i').usage = (σ.led.get r' i').usage := by
  unfold reserveStep
  split
  · simp only [Ledger.get_set]
    split
    · rename_i h; rw [← h.1, ← h.2]; exact reserve_usage _ _
    · rfl
  · rfl

theorem reserveStep_frame (σ : St) (w : Walk) (r : Nat) (r' : Nat) (i' : Int) (h : ¬ (r = r' ∧ w.cur = i')) :
    (reserveStep σ w r).led.get r' i' = σ.led.get r' i' := by
  unfold reserveStep
  split
  · simp only [Ledger.get_set, h, if_false]
  · rfl

/-- **one booking attempt**: if the task has no entry in the slot yet, then afterwards the seconds recorded
    for it there, weighted by the efficiency, are exactly the effort gained (both zero when nothing was booked) -/
theorem bookResource_secs (e : Env) (σ : St) (t : Nat) (w : Walk) (r : Nat)
    (hnone : usageOf (σ.led.get r w.cur).usage t = none) :
    taskSecs ((bookResource e σ t w r).1.led.get r w.cur) t / 3600 * (e.resD r).eff = (bookResource e σ t w r).2 := by
  rw [bookResource_eq]
  have hn' : usageOf ((reserveStep σ w r).led.get r w.cur).usage t = none := by rw [reserveStep_get]; exact hnone
  split
  · rw [bookSlot_gain]
    unfold taskSecs
    rw [bookSlot_entry, usageOf_append_none _ _ _ hn']
    rfl
  · unfold taskSecs
    simp only [hn', Option.getD_none]
    grind

theorem bookResource_frame (e : Env) (σ : St) (t : Nat) (w : Walk) (r : Nat) (r' : Nat) (i' : Int)
    (h : ¬ (r = r' ∧ w.cur = i')) : (bookResource e σ t w r).1.led.get r' i' = σ.led.get r' i' := by
  rw [bookResource_eq]
  split
  · rw [bookSlot_frame _ _ _ _ _ _ _ h, reserveStep_frame _ _ _ _ _ h]
  · exact reserveStep_frame _ _ _ _ _ h

theorem bookResource_gain_nonneg (e : Env) (wf : WF e) (σ : St) (t : Nat) (w : Walk) (r : Nat) :
    0 ≤ (bookResource e σ t w r).2 := by
  rw [bookResource_eq]
  split
  · rw [bookSlot_gain]
    have h1 := availSecs_nonneg e.G ((reserveStep σ w r).led.get r w.cur)
    have h2 := wf.eff_pos r
    have : 0 ≤ availSecs e.G ((reserveStep σ w r).led.get r w.cur) / 3600 := rat_div_nonneg _ _ h1 (by grind)
    exact Rat.mul_nonneg this (by grind)
  · exact Rat.le_refl

theorem markStart_led (e : Env) (σ : St) (t : Nat) (w : Walk) : (markStart e σ t w).led = σ.led := by
  unfold markStart; split <;> rfl

theorem isTeam_single (e : Env) (t r : Nat) : isTeam e t [r] = false := by
  unfold isTeam; simp

theorem bookResources_single (e : Env) (σ : St) (t : Nat) (w : Walk) (r : Nat)
    (ha : (e.taskD t).hasAlloc = true) (hsel : selectedOf e σ t w = [r]) :
    bookResources e σ t w =
      (let w' : Walk := { w with selected := some [r] }
       let res := bookResource e σ t w' r
       if res.2 > 0 then (markStart e res.1 t w', { w' with done := w'.done + max 0 res.2, last := some r })
       else (res.1, { w' with last := w.last })) := by
  unfold bookResources
  simp only [ha, Bool.not_true, Bool.false_eq_true, if_false, hsel, List.isEmpty_cons]
  unfold teamGateFails
  simp only [isTeam_single, Bool.false_and, Bool.false_eq_true, if_false]
  unfold leveled
  simp only [isTeam_single, Bool.false_eq_true, if_false]
  unfold bookAll
  simp only [List.foldl_cons, List.foldl_nil, bookOne]
  split <;> rfl

theorem bookResources_single_acc (e : Env) (wf : WF e) (σ : St) (t : Nat) (w : Walk) (r : Nat)
    (ha : (e.taskD t).hasAlloc = true) (hsel : selectedOf e σ t w = [r])
    (hnone : usageOf (σ.led.get r w.cur).usage t = none) :
    let res := bookResources e σ t w
    res.2.done = w.done + taskSecs (res.1.led.get r w.cur) t / 3600 * (e.resD r).eff ∧
    (∀ r' i', ¬ (r = r' ∧ w.cur = i') → res.1.led.get r' i' = σ.led.get r' i') ∧
    res.2.selected = some [r] ∧ res.2.cur = w.cur ∧ res.2.offset = w.offset ∧
    (res.2.done > w.done → res.2.last = some r) := by
  have hsecs : taskSecs ((bookResource e σ t { w with selected := some [r] } r).1.led.get r w.cur) t / 3600 * (e.resD r).eff =
      (bookResource e σ t { w with selected := some [r] } r).2 := bookResource_secs e σ t { w with selected := some [r] } r hnone
  have hfr : ∀ r' i', ¬ (r = r' ∧ w.cur = i') →
      (bookResource e σ t { w with selected := some [r] } r).1.led.get r' i' = σ.led.get r' i' :=
    bookResource_frame e σ t { w with selected := some [r] } r
  have hnn := bookResource_gain_nonneg e wf σ t { w with selected := some [r] } r
  rw [bookResources_single e σ t w r ha hsel]
  simp only []
  generalize bookResource e σ t { w with selected := some [r] } r = br at hsecs hfr hnn ⊢
  by_cases hpos : br.2 > 0
  · simp only [hpos, if_true, markStart_led]
    refine ⟨?_, hfr, trivial, trivial, trivial, fun _ => trivial⟩
    rw [hsecs, Rat.max_def, if_pos hnn]
  · simp only [hpos, if_false]
    have hz : br.2 = 0 := Rat.le_antisymm (Rat.not_lt.mp hpos) hnn
    rw [hsecs, hz, Rat.add_zero]
    exact ⟨rfl, hfr, trivial, trivial, trivial, fun h => absurd h Rat.lt_irrefl⟩

theorem entry_le_G (e : Env) (σ : St) (h : Inv e σ) (r : Nat) (i : Int) (t : Nat) (a : Rat)
    (hu : usageOf (σ.led.get r i).usage t = some a) : a ≤ (e.G : Rat) := by
  have hs := h.slot r i
  have := mem_le_usageSum _ hs.entries_nonneg _ (usageOf_mem hu)
  have := hs.sum_le
  have := hs.used_le
  simp only [] at *
  grind

theorem taskSecs_ne_zero (s : Slot) (t : Nat) (h : taskSecs s t ≠ 0) : usageOf s.usage t = some (taskSecs s t) := by
  unfold taskSecs at *
  cases hu : usageOf s.usage t with
  | none => simp [hu] at h
  | some a => simp

theorem finishTask_single (e : Env) (σ : St) (t : Nat) (w : Walk) (before : Rat) (fwd : Bool) (r : Nat)
    (hlast : w.last = some r) (hsel : w.selected = some [r]) :
    (finishTask e σ t w before fwd).1.led =
      σ.led.set r w.cur ((σ.led.get r w.cur).release t (needSecs e σ t w before r)) := by
  unfold finishTask
  simp only [hlast, hsel, Option.getD_some]
  unfold releaseOthers
  simp

/-- **the finishing slot**: what the task keeps there is exactly the effort still missing -/
theorem finishTask_secs (e : Env) (wf : WF e) (σ : St) (t : Nat) (w : Walk) (before : Rat) (fwd : Bool) (r : Nat) (a : Rat)
    (hlast : w.last = some r) (hsel : w.selected = some [r])
    (hu : usageOf (σ.led.get r w.cur).usage t = some a) (ha : a ≤ (e.G : Rat))
    (hlt : before < (e.taskD t).effort) (hge : (e.taskD t).effort ≤ before + a / 3600 * (e.resD r).eff) :
    usageOf ((finishTask e σ t w before fwd).1.led.get r w.cur).usage t =
        some (((e.taskD t).effort - before) / ((e.resD r).eff / 3600)) ∧
    (∀ r' i', ¬ (r = r' ∧ w.cur = i') → (finishTask e σ t w before fwd).1.led.get r' i' = σ.led.get r' i') := by
  rw [finishTask_single e σ t w before fwd r hlast hsel]
  have hneed := needSecs_eq e σ t w before r a (wf.eff_pos r) hlt hge ha hu
  have fe := finish_exact (e.taskD t).effort before a (e.resD r).eff (wf.eff_pos r) hlt hge
  simp only [] at fe
  constructor
  · simp only [Ledger.get_set, and_self, if_true]
    rw [hneed]
    exact release_secs _ t _ a hu fe.2.1
  · intro r' i' h
    simp only [Ledger.get_set, h, if_false]

/-- accounting invariant of the walk of task `t` on its single selected resource `r`:
    `vis` are the slots visited so far -/
structure Acc (e : Env) (σ : St) (t r : Nat) (fwd : Bool) (w : Walk) (vis : List Int) : Prop where
  only : ∀ i, i ∉ vis → usageOf (σ.led.get r i).usage t = none
  before : ∀ i ∈ vis, (if fwd then i < w.cur else w.cur < i)
  credit : w.done = sumOver σ.led r t vis / 3600 * (e.resD r).eff
  nodup : vis.Nodup

/-- outcome of a finished walk: the task's entries on `r` lie in the slots `vis` and their seconds,
    weighted by the efficiency, add up to the effort — exactly -/
def Exact (e : Env) (σ : St) (t r : Nat) (vis : List Int) : Prop :=
  vis.Nodup ∧ (∀ i, i ∉ vis → usageOf (σ.led.get r i).usage t = none) ∧
  sumOver σ.led r t vis / 3600 * (e.resD r).eff = (e.taskD t).effort

theorem selectedOf_some (e : Env) (σ : St) (t : Nat) (w : Walk) (s : List Nat) (h : w.selected = some s) :
    selectedOf e σ t w = s := by
  unfold selectedOf; rw [h]

theorem Acc.cur_notin {e : Env} {σ : St} {t r : Nat} {fwd : Bool} {w : Walk} {vis : List Int}
    (h : Acc e σ t r fwd w vis) : w.cur ∉ vis := by
  intro hin
  have := h.before _ hin
  split at this
  · omega
  · omega

theorem acc_start (e : Env) (σ : St) (t r : Nat) (fwd : Bool) (w : Walk) (hd : w.done = 0)
    (hclean : ∀ i, usageOf (σ.led.get r i).usage t = none) : Acc e σ t r fwd w [] :=
  ⟨fun i _ => hclean i, fun i hi => absurd hi List.not_mem_nil,
   by rw [hd]; show (0 : Rat) = 0 / 3600 * (e.resD r).eff; rw [Rat.div_def, Rat.zero_mul, Rat.zero_mul], List.nodup_nil⟩

theorem credit_add (d x S eff : Rat) (h : d = S / 3600 * eff) : d + x / 3600 * eff = (x + S) / 3600 * eff := by
  rw [h, Rat.div_def, Rat.div_def, Rat.div_def, Rat.add_mul, Rat.add_mul, Rat.add_comm]

theorem scheduleSlot_acc (e : Env) (wf : WF e) (σ : St) (t r : Nat) (fwd : Bool) (w : Walk) (vis : List Int)
    (hinv : Inv e σ) (hlf : (e.taskD t).leaf = true) (hw : WalkOk e t w)
    (ha : (e.taskD t).hasAlloc = true) (hm : (e.taskD t).milestone = false)
    (hsel : selectedOf e σ t w = [r]) (hlt : w.done < (e.taskD t).effort) (hpos : 0 < (e.taskD t).effort)
    (hacc : Acc e σ t r fwd w vis) :
    ((scheduleSlot e σ t w).2.2 = true →
        Acc e (scheduleSlot e σ t w).1 t r fwd (advance fwd w (scheduleSlot e σ t w).2.1) (w.cur :: vis) ∧
        (scheduleSlot e σ t w).2.1.selected = some [r] ∧
        (scheduleSlot e σ t w).2.1.done < (e.taskD t).effort) ∧
    ((scheduleSlot e σ t w).2.2 = false → Exact e (scheduleSlot e σ t w).1 t r (w.cur :: vis)) := by
  have hcur := hacc.cur_notin
  obtain ⟨hdone, hframe, hselw, hcurw, -, hlastw⟩ := bookResources_single_acc e wf σ t w r ha hsel (hacc.only _ hcur)
  have hb := bookResources_inv e σ t w wf hinv hlf hw
  have hnodup : (w.cur :: vis).Nodup := List.nodup_cons.mpr ⟨hcur, hacc.nodup⟩
  -- the booking attempt touches the current slot only, which is none of `vis`
  have hoff : ∀ i, i ≠ w.cur → (bookResources e σ t w).1.led.get r i = σ.led.get r i :=
    fun i hi => hframe r i (fun h => hi h.2.symm)
  have hout : ∀ i, i ∉ w.cur :: vis → i ≠ w.cur ∧ usageOf (σ.led.get r i).usage t = none :=
    fun i hi => ⟨fun h => hi (h ▸ List.mem_cons_self), hacc.only i (fun h => hi (List.mem_cons_of_mem _ h))⟩
  have hvis : ∀ i ∈ vis, i ≠ w.cur := fun i hi h => hcur (h ▸ hi)
  rcases scheduleSlot_effort_cases e σ t w hm hpos with ⟨hlt1, hs⟩ | ⟨hfin, hc0, hled⟩
  · rw [hs]
    refine ⟨fun _ => ⟨⟨fun i hi => ?_, fun i hi => ?_, ?_, hnodup⟩, hselw, hlt1⟩, fun hc => Bool.noConfusion hc⟩
    · rw [hoff i (hout i hi).1]; exact (hout i hi).2
    · rw [advance_cur, hcurw]
      exact visited_step hacc.before i hi
    · show (bookResources e σ t w).2.done = sumOver (bookResources e σ t w).1.led r t (w.cur :: vis) / 3600 * (e.resD r).eff
      rw [sumOver, sumOver_congr σ.led _ r t vis (fun i hi => by rw [hoff i (hvis i hi)]), hdone]
      exact credit_add _ _ _ _ hacc.credit
  · refine ⟨fun hc => Bool.noConfusion (hc0.symm.trans hc), fun _ => ?_⟩
    -- the task booked in this slot (it was short of its effort before), and `finishTask` leaves it what was missing
    have hgain : taskSecs ((bookResources e σ t w).1.led.get r w.cur) t ≠ 0 := by
      intro h0
      rw [h0, Rat.div_def, Rat.zero_mul, Rat.zero_mul, Rat.add_zero] at hdone
      exact Rat.not_le.mpr hlt (hdone ▸ hfin)
    have hu := taskSecs_ne_zero _ _ hgain
    have hge : (e.taskD t).effort ≤ w.done + taskSecs ((bookResources e σ t w).1.led.get r w.cur) t / 3600 * (e.resD r).eff := by
      rw [← hdone]; exact hfin
    obtain ⟨hkeep, hfr2⟩ := finishTask_secs e wf (bookResources e σ t w).1 t (bookResources e σ t w).2 w.done
      (σ.tst t).forward r _ (hlastw (Rat.not_le.mp fun h => Rat.not_le.mpr hlt (Rat.le_trans hfin h))) hselw (by rw [hcurw]; exact hu)
      (entry_le_G e _ hb r w.cur t _ hu) hlt hge
    rw [hcurw] at hkeep hfr2
    have hoff2 : ∀ i, i ≠ w.cur → (scheduleSlot e σ t w).1.led.get r i = σ.led.get r i :=
      fun i hi => by rw [hled, hfr2 r i (fun h => hi h.2.symm), hoff i hi]
    refine ⟨hnodup, fun i hi => ?_, ?_⟩
    · rw [hoff2 i (hout i hi).1]; exact (hout i hi).2
    · rw [sumOver, sumOver_congr σ.led _ r t vis (fun i hi => by rw [hoff2 i (hvis i hi)]), hled]
      unfold taskSecs
      rw [hkeep, Option.getD_some, ← credit_add _ _ _ _ hacc.credit]
      exact (finish_exact (e.taskD t).effort w.done _ (e.resD r).eff (wf.eff_pos r) hlt hge).2.2

/-- `Exact` reads the entries of `t` at `r` only -/
theorem Exact.congr {e : Env} {σ σ' : St} {t r : Nat} {vis : List Int}
    (hs : ∀ i, usageOf (σ'.led.get r i).usage t = usageOf (σ.led.get r i).usage t) (h : Exact e σ t r vis) :
    Exact e σ' t r vis :=
  ⟨h.1, fun i hi => (hs i).trans (h.2.1 i hi), by rw [sumOver_congr σ.led σ'.led r t vis (fun i _ => hs i)]; exact h.2.2⟩

theorem Exact.of_led {e : Env} {σ σ' : St} {t r : Nat} {vis : List Int} (hl : σ'.led = σ.led)
    (h : Exact e σ t r vis) : Exact e σ' t r vis :=
  h.congr (fun i => by rw [hl])

/-- the walk of a task on its single selected resource `r`, with a property `J` of the walk that every slot short of the
    effort keeps: the finishing slot is entered under `J` and the accounting invariant -/
theorem walkLoop_single {J : St → Walk → List Int → Prop} (e : Env) (wf : WF e) (t r : Nat) (fwd : Bool) (fuel : Nat)
    (σ : St) (w : Walk) (vis : List Int)
    (hinv : Inv e σ) (hlf : (e.taskD t).leaf = true) (hw : WalkOk e t w)
    (ha : (e.taskD t).hasAlloc = true) (hm : (e.taskD t).milestone = false)
    (hsel : selectedOf e σ t w = [r]) (hlt : w.done < (e.taskD t).effort) (hpos : 0 < (e.taskD t).effort)
    (hacc : Acc e σ t r fwd w vis) (hJ : J σ w vis)
    (hstep : ∀ σ' w' vis', Inv e σ' → WalkOk e t w' → selectedOf e σ' t w' = [r] → w'.done < (e.taskD t).effort →
      J σ' w' vis' → (scheduleSlot e σ' t w').2.2 = true →
      J (scheduleSlot e σ' t w').1 (advance fwd w' (scheduleSlot e σ' t w').2.1) (w'.cur :: vis'))
    (hok : (walkLoop e t fwd fuel σ w).2.2 = true) :
    ∃ σl wl visl, J σl wl visl ∧ Acc e σl t r fwd wl visl ∧ Inv e σl ∧ WalkOk e t wl ∧ selectedOf e σl t wl = [r] ∧
      wl.done < (e.taskD t).effort ∧ (scheduleSlot e σl t wl).2.2 = false ∧
      (walkLoop e t fwd fuel σ w).1 = (scheduleSlot e σl t wl).1 ∧
      (walkLoop e t fwd fuel σ w).2.1 = closeWalk fwd wl (scheduleSlot e σl t wl).2.1 := by
  obtain ⟨σl, wl, visl, ⟨hJl, hacc', hsel', hlt'⟩, hinvl, hwl, hcl, h1, h2⟩ := walkLoop_last
    (I := fun σ w vis => J σ w vis ∧ Acc e σ t r fwd w vis ∧ selectedOf e σ t w = [r] ∧ w.done < (e.taskD t).effort)
    wf hlf
    (fun σ w vis hinv hw h hc _ _ => by
      obtain ⟨h1, h2, h3⟩ := (scheduleSlot_acc e wf σ t r fwd w vis hinv hlf hw ha hm h.2.2.1 h.2.2.2 hpos h.2.1).1 hc
      exact ⟨hstep σ w vis hinv hw h.2.2.1 h.2.2.2 h.1 hc, h1, selectedOf_some e _ t _ [r] h2, h3⟩)
    fuel σ w vis hinv hw ⟨hJ, hacc, hsel, hlt⟩ hok
  exact ⟨σl, wl, visl, hJl, hacc', hinvl, hwl, hsel', hlt', hcl, h1, h2⟩

/-- the walk of a task on its single selected resource: when it finishes, the effort is exact -/
theorem walkLoop_exact (e : Env) (wf : WF e) (t r : Nat) (fwd : Bool) (fuel : Nat) (σ : St) (w : Walk) (vis : List Int)
    (hinv : Inv e σ) (hlf : (e.taskD t).leaf = true) (hw : WalkOk e t w)
    (ha : (e.taskD t).hasAlloc = true) (hm : (e.taskD t).milestone = false)
    (hsel : selectedOf e σ t w = [r]) (hlt : w.done < (e.taskD t).effort) (hpos : 0 < (e.taskD t).effort)
    (hacc : Acc e σ t r fwd w vis) (hok : (walkLoop e t fwd fuel σ w).2.2 = true) :
    ∃ vis', Exact e (walkLoop e t fwd fuel σ w).1 t r vis' := by
  obtain ⟨σl, wl, visl, -, hacc', hinvl, hwl, hsel', hlt', hcl, h1, -⟩ := walkLoop_single (J := fun _ _ _ => True)
    e wf t r fwd fuel σ w vis hinv hlf hw ha hm hsel hlt hpos hacc trivial (fun _ _ _ _ _ _ _ _ _ => trivial) hok
  rw [h1]
  exact ⟨_, (scheduleSlot_acc e wf σl t r fwd wl visl hinvl hlf hwl ha hm hsel' hlt' hpos hacc').2 hcl⟩

theorem selectBest_single (e : Env) (σ : St) (r : Nat) (effort : Rat) (cur : Int) :
    selectBest e σ [r] [] effort cur = [r] := by
  unfold selectBest; simp

/-- **a successful `scheduleTask` of an effort task whose first selection is the single resource `r`**, started with nothing
    of the task on `r`: a property `J` of the walk that every slot short of the effort keeps holds, with the accounting
    invariant, when the finishing slot is entered, and the task ends with the attributes `finalT` makes of that slot's -/
theorem scheduleTask_walk_single {J : St → Walk → List Int → Prop} (e : Env) (wf : WF e) (σ : St) (t r : Nat) (fwd : Bool)
    (hinv : Inv e σ) (hlf : (e.taskD t).leaf = true) (hal : (e.taskD t).hasAlloc = true)
    (hnm : (e.taskD t).milestone = false) (hpos : 0 < (e.taskD t).effort)
    (hsel0 : selectBest e (σ.setT t (σ.tst t)) (e.taskD t).alloc (e.taskD t).alt (e.taskD t).effort (initCursor e σ t).1 = [r])
    (hf : (σ.tst t).forward = fwd) (hnd : (σ.tst t).done = false)
    (hclean : ∀ i, usageOf (σ.led.get r i).usage t = none) (hok : (scheduleTask e σ t).2 = true)
    (h0 : J (σ.setT t (σ.tst t)) { cur := (initCursor e σ t).1, offset := (initCursor e σ t).2 } [])
    (hstep : ∀ σ' w vis, Inv e σ' → WalkOk e t w → selectedOf e σ' t w = [r] → w.done < (e.taskD t).effort →
      J σ' w vis → (scheduleSlot e σ' t w).2.2 = true →
      J (scheduleSlot e σ' t w).1 (advance fwd w (scheduleSlot e σ' t w).2.1) (w.cur :: vis)) :
    ∃ σl wl visl, J σl wl visl ∧ Acc e σl t r fwd wl visl ∧ Inv e σl ∧ WalkOk e t wl ∧ selectedOf e σl t wl = [r] ∧
      wl.done < (e.taskD t).effort ∧ (scheduleSlot e σl t wl).2.2 = false ∧
      (scheduleTask e σ t).1 = (scheduleSlot e σl t wl).1.setT t
        (finalT e t fwd (initCursor e σ t).1 ((scheduleSlot e σl t wl).1.tst t)
          (closeWalk fwd wl (scheduleSlot e σl t wl).2.1)) := by
  subst hf
  obtain ⟨-, hfin, heq⟩ := scheduleTask_ok e wf σ t hnd hok
  have hwok := walkStart_walkOk e wf σ t
  rw [walkStart_alloc e σ t hal] at hfin heq hwok
  obtain ⟨σl, wl, visl, hJ, hacc, hinvl, hwl, hsel, hlt, hcl, h1, h2⟩ := walkLoop_single e wf t r _ _ _ _ []
    (inv_setT _ _ hinv) hlf hwok hal hnm hsel0 hpos hpos (acc_start e _ t r _ _ rfl hclean) h0 hstep hfin
  rw [h1, h2] at heq
  exact ⟨σl, wl, visl, hJ, hacc, hinvl, hwl, hsel, hlt, hcl, heq⟩

/-- **one task, end to end.**  `scheduleTask` of an effort task that selects the single resource `r`, started in
    a state whose ledger holds nothing of the task on `r`: if it reports success, the seconds recorded for the task
    on `r`, weighted by the efficiency, add up to the requested effort — exactly, whatever the efforts, efficiencies,
    resolution, calendars, limits and other bookings are. -/
theorem scheduleTask_exact_sel (e : Env) (wf : WF e) (σ : St) (t r : Nat)
    (hinv : Inv e σ) (hlf : (e.taskD t).leaf = true)
    (ha : (e.taskD t).hasAlloc = true) (hm : (e.taskD t).milestone = false) (hpos : 0 < (e.taskD t).effort)
    (hsel0 : selectBest e (σ.setT t (preStartT e σ t (initCursor e σ t).1)) (e.taskD t).alloc (e.taskD t).alt (e.taskD t).effort
      (preStartCursor e σ t (initCursor e σ t).1) = [r])
    (hnd : (σ.tst t).done = false)
    (hclean : ∀ i, usageOf (σ.led.get r i).usage t = none)
    (hok : (scheduleTask e σ t).2 = true) :
    ∃ vis, Exact e (scheduleTask e σ t).1 t r vis := by
  have hstart := walkStart_alloc e σ t ha
  rw [show σ.setT t (preStartT e σ t (initCursor e σ t).1) = σ.setT t (σ.tst t) from congrArg Prod.fst hstart,
    show preStartCursor e σ t (initCursor e σ t).1 = (initCursor e σ t).1 from congrArg (fun p => p.2.cur) hstart] at hsel0
  obtain ⟨σl, wl, visl, -, hacc, hinvl, hwl, hsel, hlt, hcl, heq⟩ := scheduleTask_walk_single (J := fun _ _ _ => True)
    e wf σ t r (σ.tst t).forward hinv hlf ha hm hpos hsel0 rfl hnd hclean hok trivial (fun _ _ _ _ _ _ _ _ _ => trivial)
  rw [heq]
  exact ⟨_, Exact.of_led (setT_led _ _ _) ((scheduleSlot_acc e wf σl t r _ wl visl hinvl hlf hwl ha hm hsel hlt hpos hacc).2 hcl)⟩

theorem scheduleTask_exact (e : Env) (wf : WF e) (σ : St) (t r : Nat)
    (hinv : Inv e σ) (hlf : (e.taskD t).leaf = true)
    (ha : (e.taskD t).hasAlloc = true) (hm : (e.taskD t).milestone = false) (hpos : 0 < (e.taskD t).effort)
    (hsel : ∀ σ' c, selectBest e σ' (e.taskD t).alloc (e.taskD t).alt (e.taskD t).effort c = [r])
    (hnd : (σ.tst t).done = false)
    (hclean : ∀ i, usageOf (σ.led.get r i).usage t = none)
    (hok : (scheduleTask e σ t).2 = true) :
    ∃ vis, Exact e (scheduleTask e σ t).1 t r vis :=
  scheduleTask_exact_sel e wf σ t r hinv hlf ha hm hpos (hsel _ _) hnd hclean hok

end SP
